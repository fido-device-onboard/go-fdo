import Fdo.Bytes
import Fdo.Cbor.Item
import Fdo.Cbor.Head
import Fdo.Cbor.Proofs
import Fdo.Cbor.Any
import Fdo.Cbor.Canon
import Fdo.Cbor.CanonProofs
import Fdo.Cbor.Text
import Fdo.Props.C11
import Fdo.Props.C12
import Fdo.Prim.Sha2
import Fdo.Prim.Hmac
import Fdo.Prim.Aes
import Fdo.Prim.Modes
import Fdo.Prim.Gcm
import Fdo.Drv.Prim
import Fdo.Prim.Proofs
import Fdo.Cbor.Typed
import Fdo.Gen.Cbor
import Fdo.Gen.Proto
import Fdo.Gen.Schemas
import Fdo.Drv.Typed
import Fdo.Cose.Sign1
import Fdo.Cose.Sign1Proofs
import Fdo.Gen.Cose
import Fdo.Drv.Cose
import Fdo.Props.C13
import Fdo.Kex.Kdf
import Fdo.Kex.Dh
import Fdo.Kex.Rfc3526
import Fdo.Kex.Proofs
import Fdo.Gen.Kex
import Fdo.Props.C14
import Fdo.Drv.Kex
import Fdo.Proto.Voucher
import Fdo.Drv.Voucher
import Fdo.Proto.VoucherSpec
import Fdo.Props.C04
import Fdo.Svc.Chunk
import Fdo.Svc.ChunkProofs
import Fdo.Drv.Chunk
import Fdo.Props.C15
import Fdo.Proto.TO0
import Fdo.Drv.TO0
import Fdo.Props.C06
import Fdo.Rv
import Fdo.RvSpec
import Fdo.RvProofs
import Fdo.Drv.Rv
import Fdo.Props.C20
import Fdo.Proto.TO1
import Fdo.Drv.TO1
import Fdo.Props.C07
import Fdo.Proto.TO2Device
import Fdo.Drv.TO2Dev
import Fdo.Props.C01
import Fdo.Kex.Crypter
import Fdo.Kex.CrypterProofs
import Fdo.Drv.Tunnel
import Fdo.Props.C05
import Fdo.Props.C09
import Fdo.Proto.Handover
import Fdo.Props.C03
import Fdo.Drv.Handover
import Fdo.Svc.Fsim
import Fdo.Drv.Fsim
import Fdo.Svc.FsimProofs
import Fdo.Props.C17
import Fdo.Store
import Fdo.Drv.Store
import Fdo.StoreProofs
import Fdo.Props.C18
import Fdo.Proto.Endpoint
import Fdo.Drv.Endpoint
import Fdo.Proto.EndpointProofs
import Fdo.Gen.Endpoint
import Fdo.Props.C10
import Fdo.Proto.Server
import Fdo.Drv.Server
import Fdo.Proto.ServerProofs
import Fdo.Props.C02
import Fdo.Props.C08
import Fdo.Svc.Rounds
import Fdo.Drv.Rounds
import Fdo.Svc.RoundsProofs
import Fdo.Props.C16
import Fdo.Proto.ServerIsolation
import Fdo.Props.C19
import Fdo.Kex.Spec
import Fdo.Gen.Handler
import Fdo.Facts
import Fdo.Proto.ServerGrammar
import Fdo.Svc.Pipeline
import Fdo.Svc.PipelineProofs
import Fdo.Drv.Pipeline
import Fdo.Cbor.TypedFrag
import Fdo.Cbor.TypedHead
import Fdo.Cbor.TypedProofs
import Fdo.Cbor.HdrProofs
import Fdo.Kex.Wire
import Fdo.Cbor.Reads
