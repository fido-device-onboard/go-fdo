import Fdo.Proto.Endpoint
/-
Helper lemmas for Props/C10 about the routing model and the regenerated tables.
-/
namespace Fdo.Proto.Endpoint
open Fdo

theorem parseUint8_le {s : Bytes} {t : Nat} (h : parseUint8 s = some t) : t ≤ 255 := by
  unfold parseUint8 at h
  cases hd : parseDigits s 0 with
  | none => simp [hd] at h
  | some v =>
    by_cases hv : v ≤ 255
    · simp [hd, hv] at h; omega
    · simp [hd, hv] at h

/-- Every way `routeWith` can answer; a request reaches `responder t` only past all the gates. -/
theorem routeWith_cases (f : Nat → Bool) (m p a : Bytes) (mask : Nat) :
    (∃ t, routeWith f m p a mask = .responder t ∧ f t = true ∧
        hasResponder mask (protocolOf t) = true ∧ t ≤ 255 ∧ m = methodPost) ∨
      routeWith f m p a mask ∈ [.http405, .http404, .err255, .silent200, .type0] := by
  -- by the answer: for `.responder t`, `cases h` closes every end of `routeWith` that answers otherwise and leaves the one
  -- that does, with the gates passed on the way (`hm`, the `let rest`, no '/', the bearer not invalid, `ht`, `t ≠ 255`,
  -- the `let p`, `hr`, `hf`); every other answer is in the list
  cases hres : routeWith f m p a mask with
  | responder t =>
    revert hres
    fun_cases routeWith f m p a mask <;> intro h <;> cases h
    next hm rest _ _ ht _ _ hr hf => exact .inl ⟨t, rfl, hf, by simpa using hr, parseUint8_le ht, by simpa using hm⟩
  | panic s => revert hres; fun_cases routeWith f m p a mask <;> intro h <;> cases h  -- no end panics
  | _ => exact .inr (by simp)

/-- The same for the repaired handler: Message-Type 0 is gone. -/
theorem route_cases (m p a : Bytes) (mask : Nat) :
    (∃ t, route m p a mask = .responder t ∧ isRequestType t = true ∧
        hasResponder mask (protocolOf t) = true ∧ t ≤ 255 ∧ m = methodPost) ∨
      route m p a mask ∈ [.http405, .http404, .err255, .silent200] := by
  unfold route
  rcases routeWith_cases isRequestType m p a mask with ⟨t, h, r⟩ | h
  · rw [h]; exact .inl ⟨t, rfl, r⟩
  · generalize routeWith isRequestType m p a mask = r at h
    simp only [List.mem_cons, List.not_mem_nil, or_false] at h
    rcases h with rfl | rfl | rfl | rfl | rfl <;> simp

/-- A regenerated table that is a function tabulated on `0..n-1` is read by index: the table theorems
evaluate one list equation instead of `n` look-ups (each of which walks the list). -/
theorem getElem!_of_eq_map_range {f : Nat → Nat} {l : List Nat} {n : Nat}
    (h : l = (List.range n).map f) (t : Nat) (ht : t < n) : l[t]! = f t := by
  subst h
  simp [ht]

end Fdo.Proto.Endpoint
