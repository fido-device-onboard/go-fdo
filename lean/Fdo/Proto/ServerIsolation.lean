import Fdo.Proto.ServerProofs
/-
Isolation of sessions. A request reads the deployment only through its own session and the voucher / blob
presence of the devices it touches (`handle_congr`, `step_local`), and changes only these (`step_frame`);
hence requests foreign to a session, protocol starts and other tokens on other devices, leave its answers
as they would be without them (`foreign_step`, `step_both`).
-/
namespace Fdo.Proto.Server
/-- two deployments look the same from device set `D`: same configuration and the same voucher / blob presence for every
device in `D` -/
structure SameFor (D : Nat → Prop) (st1 st2 : State) : Prop where
  reuse : st1.reuse = st2.reuse
  rounds : st1.modRounds = st2.modRounds
  vouchers : ∀ d, D d → st1.vouchers.contains d = st2.vouchers.contains d
  blobs : ∀ d, D d → st1.blobs.contains d = st2.blobs.contains d

/-- the devices a request on session state `s` can touch: the one it names and the one the session's
HelloDevice named -/
def Touches (s : Sess) (r : Req) (d : Nat) : Prop := d = r.dev ∨ s.guid = some d

theorem guidIn_congr {st1 st2 : State} {s : Sess} {r : Req} (h : SameFor (Touches s r) st1 st2) :
    guidIn st1 s = guidIn st2 s := by
  unfold guidIn
  cases hg : s.guid with
  | none => rfl
  | some d => exact h.vouchers d (Or.inr hg)

/-- a responder step reads the deployment only through the devices it touches -/
theorem handle_congr {st1 st2 : State} {k : Nat} {s : Sess} {r : Req} (h : SameFor (Touches s r) st1 st2) :
    handle st1 k s r = handle st2 k s r := by
  have hv := h.vouchers r.dev (Or.inl rfl)
  have hb := h.blobs r.dev (Or.inl rfl)
  have hg := guidIn_congr h
  have e70 : h70 st1 k s r = h70 st2 k s r := by
    unfold h70
    cases hgd : s.guid with
    | none => rfl
    | some d => simp only [h.vouchers d (Or.inr hgd)]
  -- what the responders read of the deployment: 30 and 32 the blob bit of the request's device, 60 its voucher bit; 62, 64,
  -- 66, 68 (through `guidIn`) and 70 the voucher bit of the session's device; 64 also `reuse`, 68 `modRounds`
  simp only [handle, h30, h32, h60, h62, h64, h66, h68, e70, hb, hv, hg, h.reuse, h.rounds]

/-- **A response is a function of the session's own state and of the persistent entries of the
devices the request touches.** Two deployments that agree on session `k` and on those devices answer
a request on `k` identically (response type, effects) and leave `k` in the same state — whatever
other sessions, nonces, keys, vouchers or module progress they hold. -/
theorem step_local {st1 st2 : State} {r : Req} {k : Nat} {s : Sess}
    (htok : r.tok = .sess k) (hst : isStart r.typ = false) (h255 : r.typ ≠ 255)
    (h1 : st1.sessions[k]? = some s) (h2 : st2.sessions[k]? = some s)
    (hsame : SameFor (Touches s r) st1 st2) :
    (step st1 r).2 = (step st2 r).2 ∧ (step st1 r).1.sessions[k]? = (step st2 r).1.sessions[k]? := by
  have hk1 := lt_of_get h1
  have hk2 := lt_of_get h2
  unfold step
  simp only [h255, if_false]
  cases hp : protoOf r.typ with
  | none => exact ⟨rfl, by rw [h1, h2]⟩
  | some p =>
    simp only [hst, Bool.false_eq_true, if_false, htok, h1, h2]
    cases hl : s.live with
    | false => simp only [Bool.false_eq_true, if_false]; exact ⟨trivial, by rw [h1, h2]⟩
    | true =>
      simp only [if_true]
      by_cases hpr : s.proto = p
      · simp only [hpr, if_true]
        rw [handle_congr hsame]
        cases hh : handle st2 k s r with
        | none =>
          simp only
          exact ⟨trivial, by rw [List.getElem?_set_self hk1, List.getElem?_set_self hk2]⟩
        | some res =>
          simp only
          refine ⟨trivial, ?_⟩
          rw [applyEffs_sessions, applyEffs_sessions]
          rw [List.getElem?_set_self hk1, List.getElem?_set_self hk2]
      · simp only [hpr, if_false]
        exact ⟨trivial, by rw [List.getElem?_set_self hk1, List.getElem?_set_self hk2]⟩

theorem applyEff_contains (st : State) (e : Effect) (d : Nat) :
    (applyEff st e).vouchers.contains d =
      (st.vouchers.contains d && match e with | .replaceVoucher _ d' => d != d' | _ => true) ∧
    (applyEff st e).blobs.contains d =
      (st.blobs.contains d || match e with | .setBlob _ d' => d == d' | _ => false) := by
  cases e <;> simp [applyEff, List.mem_filter, Bool.or_comm, bne, Bool.beq_eq_decide_eq]

theorem applyEffs_config (st : State) (es : List Effect) :
    (applyEffs st es).reuse = st.reuse ∧ (applyEffs st es).modRounds = st.modRounds :=
  List.foldlRecOn es applyEff (motive := fun s => s.reuse = st.reuse ∧ s.modRounds = st.modRounds) ⟨rfl, rfl⟩
    fun _ h e _ => by cases e <;> exact h

/-- effects change the presence bits only of the devices they name -/
theorem applyEffs_frame (st : State) (es : List Effect) (d : Nat)
    (hb : ∀ k, Effect.setBlob k d ∉ es) (hv : ∀ k, Effect.replaceVoucher k d ∉ es) :
    (applyEffs st es).vouchers.contains d = st.vouchers.contains d ∧
    (applyEffs st es).blobs.contains d = st.blobs.contains d := by
  induction es generalizing st with
  | nil => exact ⟨rfl, rfl⟩
  | cons e es ih =>
    have ih' := ih (applyEff st e) (fun k h => hb k (.tail _ h)) (fun k h => hv k (.tail _ h))
    have he := applyEff_contains st e d
    refine ⟨ih'.1.trans (he.1.trans ?_), ih'.2.trans (he.2.trans ?_)⟩
    · cases e with
      | replaceVoucher k d' => have : d ≠ d' := fun h => hv k (h ▸ .head _); simp [this]
      | _ => simp
    · cases e with
      | setBlob k d' => have : d ≠ d' := fun h => hb k (h ▸ .head _); simp [this]
      | _ => simp

theorem applyEffs_agree (a b : State) (es : List Effect) (d : Nat)
    (hv : a.vouchers.contains d = b.vouchers.contains d) (hb : a.blobs.contains d = b.blobs.contains d) :
    (applyEffs a es).vouchers.contains d = (applyEffs b es).vouchers.contains d ∧
    (applyEffs a es).blobs.contains d = (applyEffs b es).blobs.contains d := by
  induction es generalizing a b with
  | nil => exact ⟨hv, hb⟩
  | cons e es ih =>
    exact ih _ _ (by rw [(applyEff_contains a e d).1, (applyEff_contains b e d).1, hv])
      (by rw [(applyEff_contains a e d).2, (applyEff_contains b e d).2, hb])

section
variable {st : State} {k : Nat} {s s' : Sess} {r : Req} {resp : Nat} {eff : List Effect}

/-- only HelloDevice sets the device a session is about -/
theorem handle_guid (hst : isStart r.typ = false) (h : handle st k s r = some (s', resp, eff)) : s'.guid = s.guid := by
  cases handle_spec h with
  | m60 ht => rw [ht] at hst; cases hst
  | _ => rfl
end

theorem step_state (st : State) (r : Req) :
    ∃ ss, (step st r).1 = applyEffs { st with sessions := ss } (step st r).2.2 := by
  rcases step_served_or st r with ⟨_, _, _, _, _, h⟩ | ⟨_, _, hstep, _⟩
  · exact ⟨_, by rw [h.step_eq]⟩
  · exact ⟨_, by rw [hstep]; rfl⟩

theorem step_config (st : State) (r : Req) :
    (step st r).1.reuse = st.reuse ∧ (step st r).1.modRounds = st.modRounds := by
  obtain ⟨ss, h⟩ := step_state st r
  rw [h]; exact applyEffs_config _ _

/-- A request changes the presence bits of no device it does not touch; `hd` is asked only of the session the request is
served on, if any. -/
theorem step_frame (st : State) (r : Req) (d : Nat)
    (hd : ∀ {k s s' resp eff}, Served st r k s s' resp eff → ¬ Touches s r d) :
    (step st r).1.vouchers.contains d = st.vouchers.contains d ∧
    (step st r).1.blobs.contains d = st.blobs.contains d := by
  rcases step_served_or st r with ⟨k, s, s', resp, eff, h⟩ | ⟨_, _, hstep, _⟩
  · rw [h.step_eq]
    exact applyEffs_frame _ eff d (fun k' he => hd h (.inl (handle_blob_dev h.handled k' d he)))
      (fun k' he => hd h (.inr (handle_replace_guid h.handled k' d he)))
  · rw [hstep]; exact ⟨rfl, rfl⟩

theorem SameFor.refl (D : Nat → Prop) (st : State) : SameFor D st st := ⟨rfl, rfl, fun _ _ => rfl, fun _ _ => rfl⟩

theorem SameFor.trans {D : Nat → Prop} {a b c : State} (h1 : SameFor D a b) (h2 : SameFor D b c) : SameFor D a c :=
  ⟨h1.reuse.trans h2.reuse, h1.rounds.trans h2.rounds,
   fun d hd => (h1.vouchers d hd).trans (h2.vouchers d hd), fun d hd => (h1.blobs d hd).trans (h2.blobs d hd)⟩

theorem SameFor.symm {D : Nat → Prop} {a b : State} (h : SameFor D a b) : SameFor D b a :=
  ⟨h.reuse.symm, h.rounds.symm, fun d hd => (h.vouchers d hd).symm, fun d hd => (h.blobs d hd).symm⟩

/-- request `q` is foreign to session `k` and to the devices in `D`: it is a protocol start, or it carries another token
and touches none of the devices in `D` -/
def Foreign (k : Nat) (D : Nat → Prop) (st : State) (q : Req) : Prop :=
  isStart q.typ = true ∨
  (q.tok ≠ .sess k ∧ ∀ j sj, q.tok = .sess j → st.sessions[j]? = some sj → ∀ d, D d → ¬ Touches sj q d)

theorem foreign_step {k : Nat} {D : Nat → Prop} {st : State} {q : Req} {s : Sess}
    (hf : Foreign k D st q) (hk : st.sessions[k]? = some s) :
    (step st q).1.sessions[k]? = some s ∧ SameFor D (step st q).1 st := by
  constructor
  · rcases step_slot q hk with h | ⟨htok, hst, _⟩
    · exact h
    · rcases hf with h | ⟨hne, _⟩
      · exact nomatch hst.symm.trans h
      · exact absurd htok hne
  · have hfr : ∀ d, D d → _ := fun d hD => step_frame st q d (fun {j sj _ _ _} h => by
      rcases hf with h' | ⟨_, hd⟩
      · exact nomatch h.nonstart.symm.trans h'
      · exact hd j sj h.tok h.get d hD)
    exact ⟨(step_config st q).1, (step_config st q).2, fun d hD => (hfr d hD).1, fun d hD => (hfr d hD).2⟩

theorem foreign_history {k : Nat} {D : Nat → Prop} {s : Sess} (rs : List Req) (st : State)
    (hk : st.sessions[k]? = some s)
    (hf : ∀ pre q post, rs = pre ++ q :: post → Foreign k D (stateAfter st pre) q) :
    (stateAfter st rs).sessions[k]? = some s ∧ SameFor D (stateAfter st rs) st := by
  induction rs generalizing st with
  | nil => exact ⟨hk, SameFor.refl _ _⟩
  | cons q rs ih =>
    obtain ⟨hk', hsame⟩ := foreign_step (hf [] q rs rfl) hk
    rw [stateAfter_cons]
    have := ih (step st q).1 hk' (fun pre q' post he => by
      exact hf (q :: pre) q' post (by rw [he]; rfl))
    exact ⟨this.1, this.2.trans hsame⟩

/-- The step of C19 `interleaving_irrelevant` for a request of session `k` itself. `s'.guid = s.guid` is
carried along so that what the session's next request touches is still inside `D`. -/
theorem step_both {D : Nat → Prop} {st1 st2 : State} {r : Req} {k : Nat} {s : Sess}
    (htok : r.tok = .sess k) (hst : isStart r.typ = false) (h255 : r.typ ≠ 255)
    (h1 : st1.sessions[k]? = some s) (h2 : st2.sessions[k]? = some s)
    (hD : ∀ d, Touches s r d → D d) (hsame : SameFor D st1 st2) :
    (step st1 r).2 = (step st2 r).2 ∧
    (∃ s', (step st1 r).1.sessions[k]? = some s' ∧ (step st2 r).1.sessions[k]? = some s' ∧ s'.guid = s.guid) ∧
    SameFor D (step st1 r).1 (step st2 r).1 := by
  have hres := step_local htok hst h255 h1 h2
    ⟨hsame.reuse, hsame.rounds, fun d hd => hsame.vouchers d (hD d hd), fun d hd => hsame.blobs d (hD d hd)⟩
  refine ⟨hres.1, ?_, ?_⟩
  · rw [hres.2]
    rcases step_slot r h2 with h | ⟨_, _, h | ⟨s', _, _, h⟩⟩
    · exact ⟨s, h, h, rfl⟩
    · exact ⟨_, h, h, rfl⟩
    · exact ⟨_, h.after, h.after, (handle_guid hst h.handled : s'.guid = s.guid)⟩
  · -- each result is its old store with the step's effects applied, and the effects are the same
    obtain ⟨ss1, e1⟩ := step_state st1 r
    obtain ⟨ss2, e2⟩ := step_state st2 r
    rw [hres.1] at e1
    have c1 := step_config st1 r
    have c2 := step_config st2 r
    have ha : ∀ d, D d → _ := fun d hd =>
      applyEffs_agree { st1 with sessions := ss1 } { st2 with sessions := ss2 } (step st2 r).2.2 d
        (hsame.vouchers d hd) (hsame.blobs d hd)
    refine ⟨c1.1.trans (hsame.reuse.trans c2.1.symm), c1.2.trans (hsame.rounds.trans c2.2.symm),
      fun d hd => ?_, fun d hd => ?_⟩
    · rw [e1, e2]; exact (ha d hd).1
    · rw [e1, e2]; exact (ha d hd).2

/-- `hist` is the list `mine` of session `k`'s requests interleaved with requests that are foreign to
`k` and to the devices `D`, each judged in the state it meets -/
def Interleaved (k : Nat) (D : Nat → Prop) : State → List Req → List Req → Prop
  | _, [], mine => mine = []
  | st, q :: hist, mine =>
      (∃ mine', mine = q :: mine' ∧ Interleaved k D (step st q).1 hist mine') ∨
      (Foreign k D st q ∧ Interleaved k D (step st q).1 hist mine)

/-- the answers (response type, effects) given along `hist` to the non-start requests under `k`'s token -/
def answersTo (k : Nat) : State → List Req → List (Nat × List Effect)
  | _, [] => []
  | st, q :: hist =>
    if q.tok = .sess k ∧ isStart q.typ = false then (step st q).2 :: answersTo k (step st q).1 hist
    else answersTo k (step st q).1 hist

theorem run_cons (st : State) (r : Req) (rs : List Req) :
    (run st (r :: rs)).2 = (step st r).2 :: (run (step st r).1 rs).2 := by
  simp [run]

end Fdo.Proto.Server
