import Fdo.Proto.ServerProofs
/-
The answered requests of every session form a word of its protocol's automaton.
-/
namespace Fdo.Proto.Server
/-- The protocols as automata over answered request types: phase 0 nothing answered, 1 the start
message answered, 2 (TO2) ProveDevice answered, 3 the final message answered. -/
def scan (p : Proto) (ph t : Nat) : Option Nat :=
  match p with
  | .di => if ph = 0 ∧ t = 10 then some 1 else if ph = 1 ∧ t = 12 then some 3 else none
  | .to0 => if ph = 0 ∧ t = 20 then some 1 else if ph = 1 ∧ t = 22 then some 3 else none
  | .to1 => if ph = 0 ∧ t = 30 then some 1 else if ph = 1 ∧ t = 32 then some 3 else none
  | .to2 =>
    if ph = 0 ∧ t = 60 then some 1
    else if ph = 1 ∧ t = 62 then some 1
    else if ph = 1 ∧ t = 64 then some 2
    else if ph = 2 ∧ (t = 62 ∨ t = 66 ∨ t = 68) then some 2
    else if ph = 2 ∧ t = 70 then some 3
    else none

/-- run the automaton of protocol `p` over a history -/
def runAuto (p : Proto) (h : List Nat) : Option Nat :=
  h.foldl (fun st t => st.bind (fun ph => scan p ph t)) (some 0)

theorem runAuto_snoc (p : Proto) (h : List Nat) (t : Nat) :
    runAuto p (h ++ [t]) = (runAuto p h).bind (fun ph => scan p ph t) := by
  simp [runAuto, List.foldl_append]

/-- the phase as it shows in the stored fields of a session that has not answered its final message -/
def phase (s : Sess) : Nat :=
  match s.proto with
  | .di => s.diHdr.toNat
  | .to0 => s.to0Nonce.toNat
  | .to1 => s.to1Nonce.toNat
  | .to2 => match s.kex with
    | .none => 0
    | .started => 1
    | .done _ => 2

theorem phase_le (s : Sess) : phase s ≤ 2 := by
  unfold phase
  cases s.proto with
  | to2 => cases s.kex <;> simp
  | _ => exact Nat.le_succ_of_le (Bool.toNat_le _)

structure HistOK (s : Sess) : Prop where
  word : runAuto s.proto s.hist = some (phase s) ∨ runAuto s.proto s.hist = some 3 ∧ s.live = false
  hguid : s.guid ≠ none → s.kex ≠ .none

theorem HistOK.fresh (p : Proto) : HistOK { proto := p } :=
  ⟨.inl (by cases p <;> rfl), fun h => absurd rfl h⟩

theorem HistOK.dead {s : Sess} (h : HistOK s) : HistOK (dead s) :=
  ⟨h.word.imp id (fun h => ⟨h.1, rfl⟩), h.hguid⟩

/-- one more answered request: the automaton moves on to the phase the fields show now or, with the
protocol's final response, to the end -/
theorem HistOK.next {s s' : Sess} {t resp ph : Nat} (hr : runAuto s.proto s.hist = some ph)
    (hp : s'.proto = s.proto) (hh : s'.hist = s.hist) (hg : s'.guid ≠ none → s'.kex ≠ .none)
    (hscan : scan s.proto ph t = some (phase s') ∨ scan s.proto ph t = some 3 ∧ final resp = true) :
    HistOK (finish s' t resp) := by
  refine ⟨?_, hg⟩
  show runAuto s'.proto (s'.hist ++ [t]) = some (phase s') ∨ runAuto s'.proto (s'.hist ++ [t]) = some 3 ∧ _
  rw [runAuto_snoc, hp, hh, hr]
  exact hscan.imp id (fun h => ⟨h.1, by simp [finish, h.2]⟩)

section
variable {st : State} {k : Nat} {s s' : Sess} {r : Req} {resp : Nat} {eff : List Effect}

/-- the answered request extends the session's history by a legal move of its protocol -/
theorem handle_hist (hs : HistOK s) (hl : s.live = true) (hp : protoOf r.typ = some s.proto)
    (hfresh : isStart r.typ = true → s.hist = [])
    (h : handle st k s r = some (s', resp, eff)) : HistOK (finish s' r.typ resp) := by
  obtain ⟨hw, hg⟩ := hs
  have hr : runAuto s.proto s.hist = some (phase s) := hw.resolve_right (fun h => nomatch hl.symm.trans h.2)
  have hg' : s'.guid ≠ none → s'.kex ≠ .none := by
    cases handle_spec h with
    | m60 | m64 => exact fun _ => Kex.noConfusion
    | _ => exact hg
  -- in each case the request type gives the protocol, and what the responder checked gives the old phase
  cases handle_spec h with
  | m10 ht | m20 ht | m30 ht | m60 ht =>
    rw [ht] at hp hfresh ⊢
    refine .next (ph := 0) (by rw [hfresh rfl]; rfl) rfl rfl hg' (.inl ?_)
    simp [← Option.some.inj hp, scan, phase]
  | m62 d ht _ _ hd =>
    rw [ht] at hp ⊢
    have hk := hg (hd ▸ Option.some_ne_none d)
    refine .next hr rfl rfl hg (.inl ?_)
    cases hkx : s.kex <;> simp [← Option.some.inj hp, hkx, scan, phase] at hk ⊢
  | m64 _ ht _ _ _ _ _ _ _ _ hk | m66 _ _ ht hk | m68dm _ ht hk | m68mod _ _ ht hk =>
    rw [ht] at hp ⊢
    refine .next hr rfl rfl hg' (.inl ?_)
    simp [← Option.some.inj hp, hk, scan, phase]
  | m12 ht _ hk | m22 ht _ hk | m32 ht _ hk | m70 _ ht hk | m70repl _ _ ht hk =>
    rw [ht] at hp ⊢
    refine .next hr rfl rfl hg (.inr ?_)
    simp [← Option.some.inj hp, hk, scan, phase, final]
end

def InvH (st : State) : Prop := AllSess (fun _ => HistOK) st.sessions

theorem stepH_preserves {st : State} (h : InvH st) (r : Req) : InvH (step st r).1 :=
  step_sessions r (hdead := fun _ _ => HistOK.dead) (hfresh := HistOK.fresh)
    (hans := fun hs hl hp hf _ hh => handle_hist hs hl hp hf hh) h

theorem stateAfter_invH {st : State} (h : InvH st) (rs : List Req) : InvH (stateAfter st rs) :=
  stateAfter_ind h (fun _ h r _ => stepH_preserves h r)

end Fdo.Proto.Server
