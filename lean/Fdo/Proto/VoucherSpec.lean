import Fdo.Proto.TO2Device
/-
The link-by-link specification of an entry chain (`ChainOK`) that Props/C04.lean and C01 state their theorems in, with
its structural lemma: a chain is its first link and the chain of the rest (`ChainOK_cons`).  And the device's fetching of
entries in TO2 (`fetched`), characterised once for Props/C01.lean.  The specification keeps the namespace of the property
it belongs to; it stands here because every `theorem` of a property file is audited as an obligation of the property.
-/
namespace Fdo.Props.C04
open Fdo Fdo.Cbor Fdo.Cose Fdo.Proto

/-- key that must have signed entry `i` of a chain starting under key `k` -/
def keyAt (k : Bytes) (es : List EntryView) (i : Nat) : Bytes :=
  match i with
  | 0 => k
  | j+1 => match es[j]? with | some e => e.pubKey | none => []

/-- bytes whose hash entry `i` must carry -/
def prevAt (p : Bytes) (es : List EntryView) (i : Nat) : Bytes :=
  match i with
  | 0 => p
  | j+1 => match es[j]? with | some e => e.tagBytes | none => []

/-- Link-by-link specification of a valid entry chain. -/
def ChainOK (H : Bytes → Bytes) (sigOK : Bytes → EntryView → Bool) (keyOK : Bytes → Bool)
    (alg : Int) (infoHash : Bytes) (k p : Bytes) (es : List EntryView) : Prop :=
  ∀ i e, es[i]? = some e →
    sigOK (keyAt k es i) e = true ∧ e.hdrAlg = alg ∧ e.hdrHash = infoHash ∧
    e.prevHash = H (prevAt p es i) ∧ (i + 1 < es.length → keyOK e.pubKey = true)

theorem keyAt_cons_succ (k : Bytes) (e : EntryView) (es : List EntryView) (i : Nat) :
    keyAt k (e :: es) (i + 1) = keyAt e.pubKey es i := by
  cases i <;> rfl

theorem prevAt_cons_succ (p : Bytes) (e : EntryView) (es : List EntryView) (i : Nat) :
    prevAt p (e :: es) (i + 1) = prevAt e.tagBytes es i := by
  cases i <;> rfl

theorem ChainOK_cons (H : Bytes → Bytes) (sigOK : Bytes → EntryView → Bool) (keyOK : Bytes → Bool)
    (alg : Int) (infoHash k p : Bytes) (e : EntryView) (es : List EntryView) :
    ChainOK H sigOK keyOK alg infoHash k p (e :: es) ↔
      (sigOK k e = true ∧ e.hdrAlg = alg ∧ e.hdrHash = infoHash ∧ e.prevHash = H p ∧
        (es ≠ [] → keyOK e.pubKey = true)) ∧
      ChainOK H sigOK keyOK alg infoHash e.pubKey e.tagBytes es := by
  constructor
  · intro h
    refine ⟨?_, fun i x hx => ?_⟩
    · obtain ⟨a, b, c, d, f⟩ := h 0 e rfl
      exact ⟨a, b, c, d, fun hne => f (by simpa using List.length_pos_iff.mpr hne)⟩
    · have := h (i + 1) x hx
      rwa [keyAt_cons_succ, prevAt_cons_succ, List.length_cons, Nat.add_lt_add_iff_right] at this
  · rintro ⟨⟨a, b, c, d, f⟩, h⟩ i x hx
    cases i with
    | zero =>
      cases Option.some.inj hx
      exact ⟨a, b, c, d, fun hl => f (by rintro rfl; simp at hl)⟩
    | succ j =>
      rw [keyAt_cons_succ, prevAt_cons_succ, List.length_cons, Nat.add_lt_add_iff_right]
      exact h j x hx

end Fdo.Props.C04

namespace Fdo.Proto

theorem fetched_eq_some (start : Nat) (l : List (Option (Nat × EntryView))) (es : List EntryView) :
    fetched start l = some es ↔ l = (es.zipIdx start).map fun p => some (p.2, p.1) := by
  -- the four ends of `fetched`: 1 no answer left; 2 the answer carries the number asked for, and fetching goes on;
  -- 3 it carries another number; 4 it did not decode
  fun_induction fetched start l generalizing es
  case case1 => cases es <;> simp
  case case2 n e rest ih =>
    cases es with
    | nil => simp
    | cons e' es' =>
      simp only [Option.map_eq_some_iff, List.zipIdx_cons, List.map_cons, List.cons.injEq, Option.some.injEq,
        Prod.mk.injEq, true_and, ih]
      constructor
      · rintro ⟨r, hr, rfl, rfl⟩; exact ⟨rfl, hr⟩
      · rintro ⟨rfl, h⟩; exact ⟨es', h, rfl, rfl⟩
  case case3 i n e rest hn =>
    cases es with
    | nil => simp
    | cons e' es' => simp [hn]
  case case4 => cases es <;> simp

theorem fetched_length {start : Nat} {l : List (Option (Nat × EntryView))} {es : List EntryView}
    (h : fetched start l = some es) : es.length = l.length := by
  rw [fetched_eq_some] at h; simp [h]

end Fdo.Proto
