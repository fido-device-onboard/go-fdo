import Fdo.Rv
import Fdo.RvSpec
import Fdo.Cbor.Proofs
/-
Lemmas for C20 (Props/C20.lean holds the property theorems).

`parseDirective` and `parseURLs` are loops with mutable state, the reference interpreter `specDirective` is a set of
look-ups (`lastValid p` for one reader `p` per field). They meet in one iteration: `dirStep_eq` and `urlStep_eq` say
that an iteration changes each field by what the field's reader yields on that one instruction (`pureStep`), so the
folds are records of `lastValid`s (`foldl_pureStep`, `foldl_urlStep`). What C20 says of the reference interpreter —
order, the other role's port, malformed values — is then about look-ups only (`lastValid_perm`, `spec_remove`).
-/
namespace Fdo.RvProofs
open Fdo Fdo.Cbor Fdo.Rv Fdo.RvSpec

/-! ## `orElse` and `lastValid` -/

theorem orElse_none_right {α : Type} (a : Option α) : orElse a none = a := by
  cases a <;> rfl

theorem orElse_assoc {α : Type} (a b c : Option α) : orElse a (orElse b c) = orElse (orElse a b) c := by
  cases a <;> rfl

theorem getD_orElse {α : Type} (a b : Option α) (x : α) : a.getD (b.getD x) = (orElse a b).getD x := by
  cases a <;> rfl

theorem map_orElse {α β : Type} (f : α → β) (a b : Option α) : (orElse a b).map f = orElse (a.map f) (b.map f) := by
  cases a <;> rfl

theorem lastValid_cons {α : Type} (p : RvInstr → Option α) (i : RvInstr) (is : List RvInstr) :
    lastValid p (i :: is) = orElse (lastValid p is) (p i) := by
  simp only [lastValid]
  cases lastValid p is <;> rfl

theorem lastValid_append {α : Type} (p : RvInstr → Option α) (a b : List RvInstr) :
    lastValid p (a ++ b) = orElse (lastValid p b) (lastValid p a) := by
  induction a with
  | nil => simp [lastValid, orElse_none_right]
  | cons i a ih =>
    simp only [List.cons_append, lastValid_cons, ih]
    cases lastValid p b <;> simp [orElse]

theorem lastValid_congr {α : Type} (p q : RvInstr → Option α) (is : List RvInstr)
    (h : ∀ i ∈ is, p i = q i) : lastValid p is = lastValid q is := by
  induction is with
  | nil => rfl
  | cons i is ih =>
    simp only [lastValid_cons]
    rw [ih (fun j hj => h j (List.mem_cons_of_mem _ hj)), h i (List.mem_cons_self ..)]

/-- An instruction on which `p` yields nothing can be removed. -/
theorem lastValid_remove {α : Type} (p : RvInstr → Option α) (l1 l2 : List RvInstr) (i : RvInstr)
    (h : p i = none) : lastValid p (l1 ++ i :: l2) = lastValid p (l1 ++ l2) := by
  simp only [lastValid_append, lastValid_cons, h, orElse_none_right]

/-- A look-up that reads one variable does not depend on the order of a list in which
every variable occurs at most once. -/
theorem lastValid_perm {α : Type} (p : RvInstr → Option α) (v : Nat)
    (hp : ∀ i, p i ≠ none → i.var = v) {l l' : List RvInstr} (h : l.Perm l')
    (hd : (l.map (·.var)).Nodup) : lastValid p l = lastValid p l' := by
  induction h with
  | nil => rfl
  | cons x _ ih =>
    simp only [lastValid_cons]
    rw [ih (List.nodup_cons.mp (by simpa using hd)).2]
  | swap x y l =>
    simp only [lastValid_cons]
    cases hl : lastValid p l with
    | some a => simp [orElse]
    | none =>
      simp only [orElse]
      cases hx : p x with
      | none => cases hy : p y <;> simp
      | some a =>
        cases hy : p y with
        | none => simp
        | some b =>
          exfalso
          have h1 := hp x (by simp [hx])
          have h2 := hp y (by simp [hy])
          simp only [List.map_cons, List.nodup_cons, List.mem_cons] at hd
          exact hd.1 (Or.inl (by rw [h1, h2]))
  | trans h1 _ ih1 ih2 =>
    rw [ih1 hd, ih2 ((h1.map _).nodup_iff.mp hd)]

/-! ## The loop equals the reference interpreter -/

/-! ### external RV -/

/-- A string read from bytes that are exactly one data item leaves nothing over. -/
theorem decStr_exact {f d : Nat} {p : Bytes} {x : Item} {s r' : Bytes}
    (h : decode (f + 1) d p = some (x, [])) (hs : decStr p = some (s, r')) : r' = [] := by
  obtain ⟨⟨mt, ai, arg, r⟩, hd, st⟩ := decode_succ_eq_some.1 h
  simp only [decStr, hd] at hs
  split at hs
  · split at hs
    · cases hs
    · cases hs; rename_i hm _
      rcases hm with rfl | rfl <;> cases st <;> simp
  · cases hs

/-- What `ArrayShift` returns as first element is non-empty, and decoding it as a string either
stores nothing or succeeds without trailing bytes. -/
theorem arrayShift_first (v first rest : Bytes) (h : arrayShift v = .ok first rest) :
    first ≠ [] ∧ ∀ s, (unmarshalStr first).stored = some s → (unmarshalStr first).ok = true := by
  revert h
  -- `cases h` closes the ends of `arrayShift` that fail and leaves the one that returns a first element
  fun_cases arrayShift v <;> intro h <;> cases h
  next x rest' hdec =>
    obtain ⟨p, hp, hlen, hp0⟩ := Cbor.decode_split _ _ _ _ _ hdec
    rw [hp, List.length_append, Nat.add_sub_cancel, List.take_left' rfl]
    refine ⟨by intro h0; simp [h0] at hlen, ?_⟩
    intro s hs
    unfold unmarshalStr at hs ⊢
    cases hstr : decStr p with
    | none => simp [hstr, finish] at hs
    | some sr =>
      obtain ⟨s', r'⟩ := sr
      have := decStr_exact hp0 hstr
      subst this
      simp [finish]

/-- The `case RVExtRV` iteration in terms of the specification's reader. -/
theorem dirStep_ext (dev : Bool) (d : Directive) (v : Bytes) :
    dirStep dev d ⟨15, v⟩ =
      some { d with extMech := ((readExt v).map (·.1)).getD d.extMech, extArgs := ((readExt v).map (·.2)).getD d.extArgs } := by
  simp only [dirStep, readExt, rvDevOnly, rvOwnerOnly, rvBypass, rvMedium, rvWifiSsid, rvWifiPw, rvExtRV]
  cases hs : arrayShift v with
  | fail => rfl
  | ok first rest =>
    obtain ⟨hne, hok⟩ := arrayShift_first v first rest hs
    have he : first.isEmpty = false := by cases first <;> simp_all
    simp only [applyExt, readText, Dec.val, he]
    cases hu : unmarshalStr first with
    | mk st ok =>
      cases st with
      | none => cases ok <;> simp
      | some s =>
        have := hok s (by simp [hu])
        simp [hu] at this
        subst this
        simp

/-! ### one iteration, then the loop -/

/-- One loop iteration of `parseDirective` that is not a `return nil`: each field changes by what the
reference interpreter looks up for it in this one instruction. -/
def pureStep (d : Directive) (i : RvInstr) : Directive :=
  { urls := d.urls
    bypass := d.bypass || decide (i.var = 14)
    eth := orElse (pEth i) d.eth
    wlan := orElse (pWlan i) d.wlan
    ssid := (pSsid i).getD d.ssid
    pass := (pPass i).getD d.pass
    extMech := ((pExt i).map (·.1)).getD d.extMech
    extArgs := ((pExt i).map (·.2)).getD d.extArgs
    delay := ((pDelay i).map nsOfSecs).getD d.delay
    svCert := orElse (pSv i) d.svCert
    clCert := orElse (pCl i) d.clCert }

theorem applyMedium_eq (m : Nat) (d : Directive) :
    applyMedium m d = { d with eth := orElse (mediumFor .eth m) d.eth, wlan := orElse (mediumFor .wlan m) d.wlan } := by
  unfold applyMedium mediumFor mediumTable rvMedEthAll rvMedWifiAll
  by_cases h1 : m < 10
  · simp only [if_pos h1]; rfl
  by_cases h2 : m < 20
  · simp only [if_neg h1, if_pos h2]; rfl
  by_cases h3 : m = 20
  · subst h3; rfl
  by_cases h4 : m = 21
  · subst h4; rfl
  · simp only [if_neg h1, if_neg h2, if_neg h3, if_neg h4]; rfl

/-- The `switch` of the loop body, decided by one case analysis on the variable number: once the number
is a literal the `if` chain of `dirStep` and the `onVar`s of the look-ups evaluate, and what is left
is a `match` on the result of the one reader concerned. The variables are listed in the order of `dirStep`'s
chain; a new variable enters this list (and the `h |` of its `rcases`), `pureStep`, the three `simp` sets below and
the record in `foldl_pureStep`. -/
theorem dirStep_eq (dev : Bool) (d : Directive) (i : RvInstr) :
    dirStep dev d i = if i.var = (roleRow dev).otherOnlyVar then none else some (pureStep d i) := by
  obtain ⟨v, b⟩ := i
  by_cases h15 : v = 15
  · subst h15
    cases dev <;> simp [dirStep_ext, pureStep, roleRow, pEth, pWlan, pSsid, pPass, pExt, pDelay, pSv, pCl, onVar, orElse]
  by_cases h : v ∈ [0, 1, 14, 11, 9, 10, 13, 6, 7]
  · simp only [List.mem_cons, List.not_mem_nil, or_false] at h
    rcases h with h | h | h | h | h | h | h | h | h <;> subst h <;> cases dev <;>
      simp [dirStep, pureStep, roleRow, rvDevOnly, rvOwnerOnly, rvBypass, rvMedium, rvWifiSsid, rvWifiPw, rvExtRV, rvDelaysec,
        rvSvCertHash, rvClCertHash, pEth, pWlan, pSsid, pPass, pExt, pDelay, pSv, pCl, onVar, orElse,
        readU8, readText, readU32, readHash] <;>
      split <;> simp [*, applyMedium_eq, orElse, nsOfSecs]
  · simp only [List.mem_cons, List.not_mem_nil, or_false, not_or] at h
    cases dev <;>
      simp [dirStep, pureStep, roleRow, rvDevOnly, rvOwnerOnly, rvBypass, rvMedium, rvWifiSsid, rvWifiPw, rvExtRV, rvDelaysec,
        rvSvCertHash, rvClCertHash, pEth, pWlan, pSsid, pPass, pExt, pDelay, pSv, pCl, onVar, orElse, h, h15]

theorem foldl_pureStep (d : Directive) (is : List RvInstr) :
    is.foldl pureStep d =
      { urls := d.urls
        bypass := d.bypass || is.any (fun i => i.var = 14)
        eth := orElse (lastValid pEth is) d.eth
        wlan := orElse (lastValid pWlan is) d.wlan
        ssid := (lastValid pSsid is).getD d.ssid
        pass := (lastValid pPass is).getD d.pass
        extMech := ((lastValid pExt is).map (·.1)).getD d.extMech
        extArgs := ((lastValid pExt is).map (·.2)).getD d.extArgs
        delay := ((lastValid pDelay is).map nsOfSecs).getD d.delay
        svCert := orElse (lastValid pSv is) d.svCert
        clCert := orElse (lastValid pCl is) d.clCert } := by
  induction is generalizing d with
  | nil => simp [lastValid, orElse]
  | cons i is ih =>
    simp only [List.foldl_cons, ih, pureStep, lastValid_cons, orElse_assoc, getD_orElse, map_orElse, List.any_cons,
      Bool.or_assoc]

/-- The loop of `parseDirective`: `nil` iff an other-role marker occurs, else the folded body. -/
theorem dirLoop_eq (dev : Bool) (d : Directive) (is : List RvInstr) :
    dirLoop dev d is =
      if is.any (fun i => i.var = (roleRow dev).otherOnlyVar) then .dropped
      else .ok (is.foldl pureStep d) := by
  induction is generalizing d with
  | nil => simp [dirLoop]
  | cons i is ih =>
    simp only [dirLoop, dirStep_eq, List.any_cons, List.foldl_cons]
    by_cases h : i.var = (roleRow dev).otherOnlyVar <;> simp [h, ih]

/-! ### URLs -/

theorem applyProto_eq (p : Nat) (a : UrlAcc) :
    applyProto p a = { a with scheme := (schemeOfProto p).getD a.scheme, dflt := ((schemeOfProto p).map defaultPort).getD a.dflt } := by
  by_cases h : p ∈ [1, 2, 3, 4, 5, 6]
  · simp only [List.mem_cons, List.not_mem_nil, or_false] at h
    rcases h with h | h | h | h | h | h <;> subst h <;> rfl
  · have hn : schemeOfProto p = none := List.lookup_eq_none_iff.mpr (by simpa [protoTable] using h)
    simp only [List.mem_cons, List.not_mem_nil, or_false, not_or] at h
    simp [applyProto, hn, rvProtHTTP, rvProtHTTPS, rvProtTCP, rvProtTLS, rvProtCoapTCP, rvProtCoapUDP, h]

/-- One iteration of the loop in `parseURLs`, as look-ups on the one instruction; `dflt` follows the
scheme. -/
theorem urlStep_eq (dev : Bool) (a : UrlAcc) (i : RvInstr) :
    urlStep dev a i =
      { scheme := (pScheme i).getD a.scheme
        port := orElse (pPort dev i) a.port
        dflt := ((pScheme i).map defaultPort).getD a.dflt
        dns := (pDns i).getD a.dns
        ip := (pIp i).getD a.ip } := by
  obtain ⟨v, b⟩ := i
  by_cases h : v ∈ [12, 3, 4, 5, 2]
  · simp only [List.mem_cons, List.not_mem_nil, or_false] at h
    rcases h with h | h | h | h | h <;> subst h <;> cases dev <;>
      simp [urlStep, roleRow, rvProtocol, rvDevPort, rvOwnerPort, rvDns, rvIPAddress, pScheme, pPort, pDns, pIp, onVar, orElse,
        readU8, readU16, readText, readAddr] <;>
      split <;> simp [*, applyProto_eq]
  · simp only [List.mem_cons, List.not_mem_nil, or_false, not_or] at h
    cases dev <;>
      simp [urlStep, roleRow, rvProtocol, rvDevPort, rvOwnerPort, rvDns, rvIPAddress, pScheme, pPort, pDns, pIp, onVar, orElse, h]

theorem foldl_urlStep (dev : Bool) (a : UrlAcc) (is : List RvInstr) :
    is.foldl (urlStep dev) a =
      { scheme := (lastValid pScheme is).getD a.scheme
        port := orElse (lastValid (pPort dev) is) a.port
        dflt := ((lastValid pScheme is).map defaultPort).getD a.dflt
        dns := (lastValid pDns is).getD a.dns
        ip := (lastValid pIp is).getD a.ip } := by
  induction is generalizing a with
  | nil => simp [lastValid, orElse]
  | cons i is ih =>
    simp only [List.foldl_cons, ih, urlStep_eq, lastValid_cons, orElse_assoc, getD_orElse, map_orElse]

/-- `parseURLs` alone likewise. After the fold `dflt` is the default port of the scheme selected last (`foldl_urlStep`: both
follow the last valid `RVProtocol`), which is what the reference interpreter takes when no port variable is given. -/
theorem parseURLs_eq_spec (dev : Bool) (is : List RvInstr) :
    parseURLs dev is = specURLs dev is := by
  simp only [parseURLs, foldl_urlStep, assemble, specURLs, urlsOf, lookups, UrlAcc.init, defaultScheme, orElse_none_right]
  cases lastValid pScheme is <;> cases lastValid (pPort dev) is <;> rfl

/-- `parseDirective` is the reference interpreter. -/
theorem parseDirective_eq_spec (dev : Bool) (is : List RvInstr) :
    parseDirective dev is = specDirective dev is := by
  unfold parseDirective specDirective
  rw [dirLoop_eq]
  split
  · rfl
  · rw [foldl_pureStep, parseURLs_eq_spec]
    simp only [derive, specURLs, lookups, Directive.zero, Bool.false_or, orElse_none_right]
    cases lastValid pDelay is <;> simp [nsOfSecs]


/-! ## Properties of the reference interpreter -/

theorem onVar_var {α : Type} (v : Nat) (rd : Bytes → Option α) (i : RvInstr) (h : onVar v rd i ≠ none) : i.var = v := by
  unfold onVar at h
  by_cases hv : i.var = v
  · exact hv
  · simp [hv] at h

theorem lookups_perm (dev : Bool) {l l' : List RvInstr} (h : l.Perm l') (hd : (l.map (·.var)).Nodup) :
    lookups dev l = lookups dev l' := by
  unfold lookups
  rw [lastValid_perm pScheme 12 (onVar_var _ _) h hd, lastValid_perm (pPort dev) _ (onVar_var _ _) h hd,
    lastValid_perm pDns 5 (onVar_var _ _) h hd, lastValid_perm pIp 2 (onVar_var _ _) h hd,
    lastValid_perm pEth 11 (onVar_var _ _) h hd, lastValid_perm pWlan 11 (onVar_var _ _) h hd,
    lastValid_perm pSsid 9 (onVar_var _ _) h hd, lastValid_perm pPass 10 (onVar_var _ _) h hd,
    lastValid_perm pExt 15 (onVar_var _ _) h hd, lastValid_perm pDelay 13 (onVar_var _ _) h hd,
    lastValid_perm pSv 6 (onVar_var _ _) h hd, lastValid_perm pCl 7 (onVar_var _ _) h hd]

/-- The reference interpreter does not depend on the order of distinct instructions. -/
theorem spec_perm (dev : Bool) {l l' : List RvInstr} (h : l.Perm l') (hd : (l.map (·.var)).Nodup) :
    specDirective dev l = specDirective dev l' := by
  unfold specDirective
  rw [lookups_perm dev h hd, h.any_eq, h.any_eq]

macro "mal_case" h:ident hk:ident : tactic =>
  `(tactic| (simp only [malformed, $hk:ident, Option.isNone_iff_eq_none] at $h:ident
             simp at $h:ident
             simp [pScheme, pPort, pDns, pIp, pEth, pWlan, pSsid, pPass, pExt, pDelay, pSv, pCl, onVar, roleRow, $hk:ident, $h:ident]
             try (cases ‹Bool› <;> simp)))

/-- An instruction on which no look-up yields a value and which is no marker is as good as absent. -/
theorem spec_remove (dev : Bool) (l1 l2 : List RvInstr) (i : RvInstr) (h : lookups dev [i] = lookups dev [])
    (hm : i.var ≠ (roleRow dev).otherOnlyVar) (hb : i.var ≠ 14) :
    specDirective dev (l1 ++ i :: l2) = specDirective dev (l1 ++ l2) := by
  simp only [lookups, lastValid, Lookups.mk.injEq] at h
  simp [specDirective, lookups, lastValid_remove, h, hm, hb]

/-- An instruction whose value is malformed for its variable is as good as absent. -/
theorem spec_malformed (dev : Bool) (l1 l2 : List RvInstr) (i : RvInstr) (h : malformed i = true) :
    specDirective dev (l1 ++ i :: l2) = specDirective dev (l1 ++ l2) := by
  have hv : i.var ∈ [2, 3, 4, 5, 6, 7, 9, 10, 11, 12, 13, 15] := by
    false_or_by_contra; rename_i hv
    simp only [List.mem_cons, List.not_mem_nil, or_false, not_or] at hv
    simp [malformed, hv] at h
  simp only [List.mem_cons, List.not_mem_nil, or_false] at hv
  refine spec_remove dev l1 l2 i ?_ ?_ ?_
  · simp only [lookups, lastValid, Lookups.mk.injEq]
    rcases hv with hk | hk | hk | hk | hk | hk | hk | hk | hk | hk | hk | hk <;> mal_case h hk
  · cases dev <;> simp [roleRow] <;> omega
  · omega

/-- Instructions carrying the other role's port variable are as good as absent. -/
theorem spec_other_port (dev : Bool) (l1 l2 : List RvInstr) (i : RvInstr)
    (h : i.var = (roleRow (!dev)).portVar) :
    specDirective dev (l1 ++ i :: l2) = specDirective dev (l1 ++ l2) := by
  obtain ⟨v, b⟩ := i
  cases dev <;> simp only [roleRow, Bool.not_true, Bool.not_false] at h <;> subst h <;>
    exact spec_remove _ l1 l2 _ (by simp [lookups, lastValid, pScheme, pPort, pDns, pIp, pEth, pWlan, pSsid, pPass, pExt,
      pDelay, pSv, pCl, onVar, roleRow]) (by simp [roleRow]) (by simp)

/-- Every URL of the reference interpreter carries the role's own port variable, else the
default port of its scheme. -/
theorem spec_url_port (dev : Bool) (is : List RvInstr) (u : Url) (h : u ∈ specURLs dev is) :
    u.port = orElse (lastValid (onVar (if dev then 3 else 4) readU16) is) (defaultPort u.scheme) := by
  unfold specURLs urlsOf at h
  have hp : (lookups dev is).port = lastValid (onVar (if dev then 3 else 4) readU16) is := by
    simp only [lookups, pPort, roleRow]; cases dev <;> rfl
  simp only [List.mem_append] at h
  rcases h with h | h
  · split at h
    · simp at h; subst h; simp [hp]
    · cases h
  · split at h
    · simp at h; subst h; simp [hp]
    · cases h


end Fdo.RvProofs
