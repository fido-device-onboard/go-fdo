import Fdo.Prim.Sha2
import Fdo.Prim.Hmac
import Fdo.Prim.Aes
import Fdo.Prim.Modes
import Fdo.Prim.Gcm
import Fdo.Drv.Prim
/-!
Small structural facts about the primitives: output lengths, PKCS#7 `pad`/`unpad` round
trip, counter mode is an involution, GCM `open ∘ seal = id`.  Nothing here says the
primitives compute SHA-2/AES (that is what the differential harness `PRIM` is for).  The tunnel
(Kex/CrypterProofs, Props/C05) uses the padding facts and the two inverses; the length facts stand
for themselves.

Not imported by `Main.lean`.
-/
namespace Fdo.Prim
open Fdo

/-! ### output lengths -/

@[simp] theorem be32_length (x : UInt32) : (be32 x).length = 4 := rfl
@[simp] theorem be64_length (x : UInt64) : (be64 x).length = 8 := rfl

@[simp] theorem sha256_length (m : Bytes) : (sha256 m).length = 32 := by
  simp [sha256, S256.bytes]

@[simp] theorem sha384_length (m : Bytes) : (sha384 m).length = 48 := by
  simp [sha384]

@[simp] theorem sha512_length (m : Bytes) : (sha512 m).length = 64 := by
  simp [sha512]

@[simp] theorem hmacSha256_length (k m : Bytes) : (hmacSha256 k m).length = 32 := by
  simp [hmacSha256, hmac]

@[simp] theorem hmacSha384_length (k m : Bytes) : (hmacSha384 k m).length = 48 := by
  simp [hmacSha384, hmac]

@[simp] theorem Blk.bytes_length (b : Blk) : b.bytes.length = 16 := by
  simp [Blk.bytes]

theorem aesEncryptBlock?_length {k b c : Bytes} (h : aesEncryptBlock? k b = some c) : c.length = 16 := by
  unfold aesEncryptBlock? at h
  split at h
  · exact absurd h (by simp)
  · split at h
    · injection h with h; subst h; simp
    · exact absurd h (by simp)

theorem aesDecryptBlock?_length {k b c : Bytes} (h : aesDecryptBlock? k b = some c) : c.length = 16 := by
  unfold aesDecryptBlock? at h
  split at h
  · exact absurd h (by simp)
  · split at h
    · injection h with h; subst h; simp
    · exact absurd h (by simp)

/-! ### PKCS#7 -/

theorem padSize_pos {len bs : Nat} (h : 0 < bs) : 1 ≤ padSize len bs := by
  have := Nat.mod_lt len h
  unfold padSize; omega

theorem padSize_le (len bs : Nat) : padSize len bs ≤ bs := by
  unfold padSize; omega

@[simp] theorem pad_length (b : Bytes) (bs : Nat) : (pad b bs).length = b.length + padSize b.length bs := by
  simp [pad]

theorem pad_length_mod (b : Bytes) (bs : Nat) (h : 0 < bs) : (pad b bs).length % bs = 0 := by
  have hr : b.length % bs < bs := Nat.mod_lt _ h
  have hd := Nat.div_add_mod b.length bs
  have e : (pad b bs).length = bs * (b.length / bs + 1) := by
    rw [pad_length, padSize, Nat.mul_add, Nat.mul_one]
    generalize bs * (b.length / bs) = q at hd
    omega
  rw [e, Nat.mul_mod_right]

/-- So a padded message is never empty. -/
theorem pad_length_gt (b : Bytes) (bs : Nat) (h : 0 < bs) : b.length < (pad b bs).length := by
  have := padSize_pos (len := b.length) h
  rw [pad_length]; omega

/-- For the block sizes `pad` can be called with, the panicking model agrees with `pad`. -/
theorem pad?_eq_some (b : Bytes) (bs : Nat) (h1 : 0 < bs) (h2 : bs ≤ 255) : pad? b bs = some (pad b bs) := by
  have := padSize_le b.length bs
  unfold pad?
  rw [if_neg (by omega), if_neg (by omega)]

theorem pad_getLast? (b : Bytes) (bs : Nat) (h1 : 0 < bs) (h2 : bs ≤ 255) :
    (pad b bs).getLast? = some (UInt8.ofNat (padSize b.length bs)) ∧
      (UInt8.ofNat (padSize b.length bs)).toNat = padSize b.length bs := by
  have hk1 := padSize_pos (len := b.length) h1
  have hk2 := padSize_le b.length bs
  refine ⟨?_, by simp [Nat.mod_eq_of_lt (show padSize b.length bs < 256 by omega)]⟩
  rw [pad, List.getLast?_append, List.getLast?_replicate, if_neg (by omega)]; rfl

theorem unpad_pad (b : Bytes) (bs : Nat) (h1 : 0 < bs) (h2 : bs ≤ 255) : unpad (pad b bs) = some b := by
  obtain ⟨hlast, hk⟩ := pad_getLast? b bs h1 h2
  unfold unpad
  rw [hlast]
  simp only [hk, pad_length]
  rw [if_neg (by omega), Nat.add_sub_cancel, pad, List.take_left' rfl]

theorem unpad_pad16 (b : Bytes) : unpad (pad b 16) = some b := unpad_pad b 16 (by decide) (by decide)

theorem unpad_prefix {b r : Bytes} (h : unpad b = some r) : ∃ n, r = b.take n := by
  unfold unpad at h
  split at h
  · exact absurd h (by simp)
  · split at h
    · exact absurd h (by simp)
    · injection h with h; exact ⟨_, h.symm⟩

/-- `Prim.unpad` is `unpad` of cose/encrypt_alg.go as found (the repaired, strict one is `Kex.unpad16`); it
performs no validation: a zero pad byte returns the input unchanged, the removed bytes need not equal the
pad size, the pad size may exceed a block. -/
example : unpad [1, 2, 3, 0] = some [1, 2, 3, 0] := by decide +kernel
example : unpad [7, 9, 9, 3] = some [7] := by decide +kernel
example : unpad (List.replicate 20 20) = some [] := by decide +kernel
/-- `unpad` "panics" (`none`) on the empty string and when the last byte exceeds the length. -/
example : unpad [] = none := by decide +kernel
example : unpad [1, 2, 5] = none := by decide +kernel

/-! ### counter mode -/

@[simp] theorem xorKs_length (d ks : Bytes) : (xorKs d ks).length = d.length := by
  simp [xorKs, List.length_zipWith]; omega

@[simp] theorem xorKs_nil_right (d : Bytes) : xorKs d [] = d := by simp [xorKs]

@[simp] theorem xorKs_nil_left (ks : Bytes) : xorKs [] ks = [] := by simp [xorKs]

@[simp] theorem xorKs_cons_cons (a k : UInt8) (d ks : Bytes) :
    xorKs (a :: d) (k :: ks) = (a ^^^ k) :: xorKs d ks := by simp [xorKs]

/-- Xoring the same keystream twice gives back the data, also when the keystream is the shorter: `xorKs` passes the
bytes beyond it through unchanged, both times. -/
theorem xorKs_xorKs (d ks : Bytes) : xorKs (xorKs d ks) ks = d := by
  induction d generalizing ks with
  | nil => simp
  | cons a d ih =>
    cases ks with
    | nil => simp
    | cons k ks =>
      rw [xorKs_cons_cons, xorKs_cons_cons, ih, UInt8.xor_assoc, UInt8.xor_self, UInt8.xor_zero]

theorem aesCtr?_length {k iv d c : Bytes} (h : aesCtr? k iv d = some c) : c.length = d.length := by
  unfold aesCtr? at h
  split at h
  · exact absurd h (by simp)
  · split at h
    · injection h with h; subst h; simp
    · exact absurd h (by simp)

theorem aesCtr?_involutive {k iv d c : Bytes} (h : aesCtr? k iv d = some c) : aesCtr? k iv c = some d := by
  unfold aesCtr? at h ⊢
  split at h
  · exact absurd h (by simp)
  · rename_i rk hk
    split at h
    · rename_i hiv
      injection h with h; subst h
      simp only [hiv, if_true, xorKs_length, xorKs_xorKs]
    · exact absurd h (by simp)

/-! ### GCM -/

@[simp] theorem gcmTag_length (rk : Array UInt32) (j0 : Blk) (aad ct : Bytes) :
    (gcmTag rk j0 aad ct).length = 16 := by
  simp [gcmTag]

theorem gcmSeal?_length {k n a p c : Bytes} (h : gcmSeal? k n a p = some c) : c.length = p.length + 16 := by
  unfold gcmSeal? at h
  split at h
  · exact absurd h (by simp)
  · split at h
    · injection h with h; subst h; simp
    · exact absurd h (by simp)

theorem gcmOpen_gcmSeal? {k n a p c : Bytes} (h : gcmSeal? k n a p = some c) : gcmOpen k n a c = some p := by
  unfold gcmSeal? at h
  unfold gcmOpen
  split at h
  · exact absurd h (by simp)
  · rename_i rk hk
    split at h
    · rename_i hn
      injection h with h; subst h
      have hlen : (xorKs p (ctrKeystream rk true (gcmJ0 n).inc32 p.length) ++
          gcmTag rk (gcmJ0 n) a (xorKs p (ctrKeystream rk true (gcmJ0 n).inc32 p.length))).length - 16
          = (xorKs p (ctrKeystream rk true (gcmJ0 n).inc32 p.length)).length := by
        simp
      simp only [hn, true_and]
      rw [if_pos (by simp), hlen, List.take_left' rfl, List.drop_left' rfl, if_pos rfl,
        xorKs_length, xorKs_xorKs]
    · exact absurd h (by simp)

end Fdo.Prim

namespace Fdo.Drv.Prim
open Fdo

/-! ### the driver's fast hex parser is `Fdo.ofHex` -/

theorem ofHexLoop_eq : ∀ (cs : List Char) (acc : ByteArray),
    (ofHexLoop cs acc).map (fun b => b.data.toList) = (ofHexChars cs).map (fun l => acc.data.toList ++ l)
  | [], acc | [_], acc => by simp [ofHexLoop, ofHexChars]
  | a :: b :: r, acc => by
    unfold ofHexLoop ofHexChars
    cases hx : hexVal a with
    | none => simp
    | some x =>
      cases hy : hexVal b with
      | none => simp
      | some y =>
        simp only [Option.bind_eq_bind, Option.bind_some, Option.pure_def]
        rw [ofHexLoop_eq r]
        cases ofHexChars r <;> simp [ByteArray.data_push]

theorem ofHexFast_eq_ofHex (s : String) : ofHexFast s = ofHex s := by
  unfold ofHexFast ofHex
  split
  · rfl
  · rw [ofHexLoop_eq]
    cases ofHexChars s.toList <;> simp [ByteArray.emptyWithCapacity] <;> rfl

end Fdo.Drv.Prim
