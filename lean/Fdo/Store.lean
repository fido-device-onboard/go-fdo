import Fdo.Bytes
/-
Abstract specification of the server state store (sqlite/sqlite.go, interfaces of
server_state.go and protocol.TokenService).  Core Lean only.

The store is three finite maps (plus the two key tables):

  tokens   : Token → Option (Protocol × Fields)     issued ∧ not invalidated
  vouchers : Guid  → Option V
  rvBlobs  : Guid  → Option (Blob × V × Exp)

Values are opaque byte strings (`Bytes`): the canonical encoding of what the Go method was given
(argument) or returned (result).  That the Go value → stored bytes → Go value round trip is the
identity on these encodings is exactly what the refinement check of the harness compares.

Token validity is abstract: `mac : Raw → Auth` says what the store's MAC check makes of a
presented token string — the session identifier it authenticates, nothing, or "fewer than 16
decoded bytes" (kept apart because the tree as found slices such a token without a length check).
`Token` is the session identifier (16 random bytes in the code, a number here).

One `Op` per state-interface method; `step` gives the new store and the observable result.
`Reopen` (Close + Open of the database file, or a fresh *sqlite.DB / fresh server objects) is the
identity on the abstract state: everything lives in the file, the MAC secret included.

What the model says where the code could have been written either way (all confirmed by running
the code, see harness/c18.go):
  * reading a never-set field, or any field of an invalidated session: `notFound`
    (the session row and its dependants are gone, ON DELETE CASCADE; the MAC still verifies);
  * writing a field of an invalidated session: `error` (FOREIGN KEY constraint), nothing stored;
  * a token whose MAC does not verify: `invalidSession` for every accessor, `notFound` for
    InvalidateToken; InvalidateToken of an already invalidated session: `ok`;
  * the protocol a token was issued for is recorded and never consulted: a DI token can be used
    with the TO2 accessors (and gets its own TO2 fields);
  * AddVoucher of a GUID that is stored: `error` (PRIMARY KEY), the stored voucher stays;
  * ReplaceVoucher g v': `error` when v' has extensions or its GUID is already stored, `notFound`
    when g is not stored; in all these cases nothing changes;
  * RVBlob: `notFound` once `now` is after the stored expiry;
  * key tables: the first key added for a slot wins, later additions are ignored (`ok`).

`Variant.original` is the tree as found, `Variant.repaired` the code after
  fix: sqlite: reject tokens shorter than a session ID instead of panicking
  fix: sqlite: setting a DI session value again replaces the stored value
  fix: sqlite: ReplaceVoucher rejects a replacement with the GUID it replaces
-/
namespace Fdo.Store

inductive Variant
  | original
  | repaired
deriving DecidableEq, Repr

inductive Protocol
  | di | to0 | to1 | to2
deriving DecidableEq, Repr

/-- One constructor per `SetX`/`X` pair of the session-state interfaces. -/
inductive Field
  | deviceCertChain      -- DISessionState
  | voucherHeader
  | to0Nonce             -- TO0SessionState
  | to1Nonce             -- TO1SessionState
  | guid                 -- TO2SessionState
  | rvInfo
  | replGuid
  | replHmac
  | xSession
  | proveDvNonce
  | setupDvNonce
  | mtu
  | devmod
deriving DecidableEq, Repr

abbrev Token := Nat
abbrev Guid := Bytes
abbrev Fields := Field → Option Bytes
/-- (key type, RSA bits or 0) -/
abbrev KeySlot := Nat × Nat

/-- Outcome of the MAC check on a presented token string. -/
inductive Auth
  | valid (t : Token)   -- decodes, MAC verifies: authenticates session identifier `t`
  | invalid             -- not base64, wrong MAC, foreign database, no token in the context, …
  | short               -- decodes to fewer than 16 bytes
deriving DecidableEq, Repr

structure Store where
  tokens    : Token → Option (Protocol × Fields)
  vouchers  : Guid → Option Bytes
  rvBlobs   : Guid → Option (Bytes × Bytes × Nat)
  ownerKeys : KeySlot → Option Bytes
  mfgKeys   : KeySlot → Option Bytes

def Store.empty : Store :=
  ⟨fun _ => none, fun _ => none, fun _ => none, fun _ => none, fun _ => none⟩

inductive Result
  | ok
  | value (v : Bytes)
  | pair (b v : Bytes)       -- RVBlob returns the blob and the voucher
  | notFound
  | invalidSession
  | error
  | panic                    -- `Variant.original` only
deriving DecidableEq, Repr

inductive Op (Raw : Type)
  | newToken (t : Token) (p : Protocol)          -- `t`: the identifier the store draws
  | invalidate (r : Raw)
  | set (r : Raw) (f : Field) (v : Bytes)
  | get (r : Raw) (f : Field)
  | selfInfo (r : Raw)                           -- SetDeviceSelfInfo (write-only)
  | addVoucher (g : Guid) (v : Bytes)
  | getVoucher (g : Guid)
  | replaceVoucher (g g' : Guid) (ext : Bool) (v : Bytes)   -- g' = GUID of v, ext = v has extensions
  | removeVoucher (g : Guid)
  | setRVBlob (g : Guid) (b v : Bytes) (exp : Nat)
  | getRVBlob (g : Guid) (now : Nat)
  | addOwnerKey (typ bits : Nat) (v : Bytes)     -- bits: size of the key if it is RSA, else 0
  | ownerKey (typ bits : Nat)
  | addMfgKey (typ bits : Nat) (chain : Bool) (v : Bytes)
  | mfgKey (typ bits : Nat)
  | reopen

/-- Point update of a finite map. -/
def upd {α β : Type} [DecidableEq α] (m : α → β) (k : α) (v : β) : α → β :=
  fun x => if x = k then v else m x

@[simp] theorem upd_same {α β : Type} [DecidableEq α] (m : α → β) (k : α) (v : β) :
    upd m k v k = v := by simp [upd]

theorem upd_other {α β : Type} [DecidableEq α] {m : α → β} {k x : α} {v : β} (h : x ≠ k) :
    upd m k v x = m x := by simp [upd, h]

theorem upd_eq_self {α β : Type} [DecidableEq α] (m : α → β) (k : α) (v : β) (h : m k = v) :
    upd m k v = m := by
  funext x; by_cases hx : x = k <;> simp [upd, hx, h]

/-! ### key slots (`rsa_bits` column) -/

def rsa2048Restr : Nat := 1
def rsaPkcs : Nat := 5
def rsaPss : Nat := 6

/-- Slot a lookup addresses: `rsaBits` is forced to 2048 for RSA2048RESTR, used as given for
RSAPKCS/RSAPSS and ignored for every other type. -/
def lookupSlot (typ bits : Nat) : KeySlot :=
  if typ = rsa2048Restr then (typ, 2048)
  else if typ = rsaPkcs ∨ typ = rsaPss then (typ, bits)
  else (typ, 0)

/-- Slot an added key lands in (`none`: rejected — RSAPKCS/RSAPSS with a key that is not RSA). -/
def addSlot (typ keyBits : Nat) : Option KeySlot :=
  if typ = rsa2048Restr then some (typ, 2048)
  else if typ = rsaPkcs ∨ typ = rsaPss then (if keyBits = 0 then none else some (typ, keyBits))
  else some (typ, 0)

def addKey (m : KeySlot → Option Bytes) (slot : KeySlot) (v : Bytes) : KeySlot → Option Bytes :=
  match m slot with
  | some _ => m               -- INSERT OR IGNORE / the first row is the one read
  | none => upd m slot (some v)

def found : Option Bytes → Result
  | some v => .value v
  | none => .notFound

/-! ### the step function -/

/-- `sessionID`: run `k` on the authenticated session identifier, or answer `bad`. -/
def withSession (V : Variant) (a : Auth) (s : Store) (bad : Result)
    (k : Token → Store × Result) : Store × Result :=
  match a with
  | .valid t => k t
  | .invalid => (s, bad)
  | .short => (s, if V = .original then .panic else bad)

def setField (V : Variant) (s : Store) (t : Token) (f : Field) (v : Bytes) : Store × Result :=
  match s.tokens t with
  | none => (s, .error)
  | some (p, fs) =>
    if V = .original ∧ f = .deviceCertChain ∧ (fs f).isSome then
      (s, .ok)          -- as found: a second row is added, the first one keeps being read
    else if V = .original ∧ f = .voucherHeader ∧ (fs f).isSome then
      (s, .error)       -- as found: UNIQUE constraint
    else
      ({ s with tokens := upd s.tokens t (some (p, upd fs f (some v))) }, .ok)

def getField (s : Store) (t : Token) (f : Field) : Result :=
  match s.tokens t with
  | none => .notFound
  | some (_, fs) => found (fs f)

def replaceVoucher (V : Variant) (s : Store) (g g' : Guid) (ext : Bool) (v : Bytes) :
    Store × Result :=
  if ext then (s, .error)
  else if V = .repaired ∧ g = g' then (s, .error)
  else if (s.vouchers g').isSome then (s, .error)       -- AddVoucher fails, nothing else happens
  else if g = g' then (s, .ok)     -- as found: the voucher just added is the one removed again
  else match s.vouchers g with
    | none => (s, .notFound)                             -- new voucher removed again
    | some _ => ({ s with vouchers := upd (upd s.vouchers g' (some v)) g none }, .ok)


/-! ### ReplaceVoucher interrupted (the request's context ends between its statements)

`DB.ReplaceVoucher` is not a transaction: it inserts the replacement, then deletes the old voucher; when the
deletion fails because the request's context has ended it removes the replacement again under a context of
its own. `Cut` says where the request's context ends. -/
inductive Cut
  | none            -- not interrupted
  | beforeInsert    -- the INSERT of the replacement already fails
  | afterInsert     -- the replacement is in, the DELETE of the old voucher fails
deriving DecidableEq, Repr

def replaceVoucherCut (s : Store) (g g' : Guid) (ext : Bool) (v : Bytes) : Cut → Store × Result
  | .none => replaceVoucher .repaired s g g' ext v
  | .beforeInsert => (s, .error)
  | .afterInsert =>
    if ext ∨ g = g' ∨ (s.vouchers g').isSome then (s, .error)
    else
      let s₁ := { s with vouchers := upd s.vouchers g' (some v) }     -- inserted
      -- the deletion of `g` fails; best effort: the replacement is removed again
      ({ s₁ with vouchers := upd s₁.vouchers g' none }, .error)

/-- the behaviour of the seeded change C03-9: the roll-back runs under the dead context and fails too -/
def replaceVoucherCutNoRollback (s : Store) (g g' : Guid) (ext : Bool) (v : Bytes) : Cut → Store × Result
  | .afterInsert =>
    if ext ∨ g = g' ∨ (s.vouchers g').isSome then (s, .error)
    else ({ s with vouchers := upd s.vouchers g' (some v) }, .error)
  | c => replaceVoucherCut s g g' ext v c

def step {Raw : Type} (V : Variant) (mac : Raw → Auth) (s : Store) : Op Raw → Store × Result
  | .newToken t p => ({ s with tokens := upd s.tokens t (some (p, fun _ => none)) }, .ok)
  | .invalidate r =>
    withSession V (mac r) s .notFound fun t => ({ s with tokens := upd s.tokens t none }, .ok)
  | .set r f v => withSession V (mac r) s .invalidSession fun t => setField V s t f v
  | .get r f => withSession V (mac r) s .invalidSession fun t => (s, getField s t f)
  | .selfInfo r => withSession V (mac r) s .invalidSession fun _ => (s, .ok)
  | .addVoucher g v =>
    match s.vouchers g with
    | some _ => (s, .error)
    | none => ({ s with vouchers := upd s.vouchers g (some v) }, .ok)
  | .getVoucher g => (s, found (s.vouchers g))
  | .replaceVoucher g g' ext v => replaceVoucher V s g g' ext v
  | .removeVoucher g =>
    match s.vouchers g with
    | none => (s, .notFound)
    | some v => ({ s with vouchers := upd s.vouchers g none }, .value v)
  | .setRVBlob g b v exp => ({ s with rvBlobs := upd s.rvBlobs g (some (b, v, exp)) }, .ok)
  | .getRVBlob g now =>
    match s.rvBlobs g with
    | none => (s, .notFound)
    | some (b, v, exp) => (s, if exp < now then .notFound else .pair b v)
  | .addOwnerKey typ bits v =>
    match addSlot typ bits with
    | none => (s, .error)
    | some slot => ({ s with ownerKeys := addKey s.ownerKeys slot v }, .ok)
  | .ownerKey typ bits => (s, found (s.ownerKeys (lookupSlot typ bits)))
  | .addMfgKey typ bits chain v =>
    if !chain then (s, .error)
    else match addSlot typ bits with
      | none => (s, .error)
      | some slot => ({ s with mfgKeys := addKey s.mfgKeys slot v }, .ok)
  | .mfgKey typ bits => (s, found (s.mfgKeys (lookupSlot typ bits)))
  | .reopen => (s, .ok)

/-! ### histories -/

section
variable {Raw : Type} (V : Variant) (mac : Raw → Auth)

/-- Store after a history. -/
def exec (s : Store) : List (Op Raw) → Store
  | [] => s
  | op :: ops => exec (step V mac s op).1 ops

/-- Results of a history, in order. -/
def results (s : Store) : List (Op Raw) → List Result
  | [] => []
  | op :: ops => (step V mac s op).2 :: results (step V mac s op).1 ops

/-- Each operation of a history with its result. -/
def trace (s : Store) : List (Op Raw) → List (Op Raw × Result)
  | [] => []
  | op :: ops => (op, (step V mac s op).2) :: trace (step V mac s op).1 ops

/-- The result of `op` issued after history `h`. -/
def after (s : Store) (h : List (Op Raw)) (op : Op Raw) : Result :=
  (step V mac (exec V mac s h) op).2

end

/-! ### classification of operations -/

/-- The token string a session operation presents. -/
def Op.raw {Raw : Type} : Op Raw → Option Raw
  | .invalidate r | .set r _ _ | .get r _ | .selfInfo r => some r
  | _ => none

/-- Session operations: they address one session (or try to). -/
def Op.isSession {Raw : Type} : Op Raw → Bool
  | .newToken .. | .invalidate .. | .set .. | .get .. | .selfInfo .. => true
  | _ => false

def Op.isReopen {Raw : Type} : Op Raw → Bool
  | .reopen => true
  | _ => false

/-- `op` is a session operation that does not address session `t`: it issues another
identifier, or presents a token that authenticates another session or none. -/
def Op.foreignTo {Raw : Type} (mac : Raw → Auth) (t : Token) : Op Raw → Bool
  | .newToken t' _ => t' ≠ t
  | .invalidate r | .set r _ _ | .get r _ | .selfInfo r => mac r ≠ .valid t
  | _ => false

/-- `op` leaves field `f` of session `t` alone: it neither issues nor invalidates `t` nor sets
`f` of `t`. -/
def Op.quiet {Raw : Type} (mac : Raw → Auth) (t : Token) (f : Field) : Op Raw → Prop
  | .newToken t' _ => t' ≠ t
  | .invalidate r => mac r ≠ .valid t
  | .set r f' _ => ¬ (mac r = .valid t ∧ f' = f)
  | _ => True

/-- `op` neither issues nor invalidates session `t`. -/
def Op.keeps {Raw : Type} (mac : Raw → Auth) (t : Token) : Op Raw → Prop
  | .newToken t' _ => t' ≠ t
  | .invalidate r => mac r ≠ .valid t
  | _ => True

/-- `op` does not issue session `t`. -/
def Op.noIssue {Raw : Type} (t : Token) : Op Raw → Prop
  | .newToken t' _ => t' ≠ t
  | _ => True

/-- A result that hands out nothing: no stored value and no acknowledgement of a write. -/
def Result.grantsNothing : Result → Prop
  | .notFound | .invalidSession | .error => True
  | _ => False

end Fdo.Store
