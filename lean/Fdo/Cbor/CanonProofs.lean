import Fdo.Cbor.Proofs
import Fdo.Cbor.Canon
/-
Canonical form: what the strict decoder accepts is exactly the encoder's output.
Helper lemmas for Props/C11 (`reencode_canonical`, `marshal_is_canonical`, …).
-/
namespace Fdo.Cbor
open Fdo

/-! ### heads -/

/-- Info 24..27 is the shortest for `n` exactly from the bound below which `decHeadStrict` refuses it. -/
theorem eq_headAi_iff {ai n : Nat} (h24 : 24 ≤ ai) (h28 : ai < 28) (hn : n < 256 ^ argWidth ai) :
    ai = headAi n ↔ ¬ n < (if ai = 24 then 24 else if ai = 25 then 256 else if ai = 26 then 65536 else 4294967296) := by
  rcases (by omega : ai = 24 ∨ ai = 25 ∨ ai = 26 ∨ ai = 27) with rfl | rfl | rfl | rfl <;>
    (simp only [argWidth, ↓reduceIte, Nat.reduceEqDiff, Nat.reducePow] at hn ⊢
     rcases headAi_cases n with h | h | h | h | h <;> omega)

theorem decHeadStrict_eq_some {b : Bytes} {mt ai arg : Nat} {r : Bytes} :
    decHeadStrict b = some (mt, ai, arg, r) ↔ decHead b = some (mt, ai, arg, r) ∧ ai = headAi arg := by
  cases b with
  | nil => simp [decHeadStrict, decHead]
  | cons x t =>
    -- the cascade is walked with `by_cases` and `if_pos`/`if_neg`: `split` on this goal (two unfolded
    -- head decoders) costs ten times as much to check
    simp only [decHeadStrict, decHead]
    by_cases h24 : x.toNat % 32 < 24
    · simp only [if_pos h24, Option.some.injEq, Prod.mk.injEq, iff_self_and]
      rintro ⟨_, rfl, rfl, _⟩; exact (headAi_small h24).symm
    simp only [if_neg h24]
    by_cases h28 : x.toNat % 32 ≥ 28
    · simp only [if_pos h28, reduceCtorEq, false_and]
    simp only [if_neg h28]
    by_cases hlen : t.length < argWidth (x.toNat % 32)
    · simp only [if_pos hlen, reduceCtorEq, false_and]
    simp only [if_neg hlen]
    have hn := beNat_lt (t.take (argWidth (x.toNat % 32)))
    rw [List.length_take, Nat.min_eq_left (by omega)] at hn
    have hs := eq_headAi_iff (by omega) (by omega) hn
    generalize (if x.toNat % 32 = 24 then 24 else if x.toNat % 32 = 25 then 256
      else if x.toNat % 32 = 26 then 65536 else 4294967296) = lo at hs ⊢
    by_cases hlo : beNat (t.take (argWidth (x.toNat % 32))) < lo
    · simp only [if_pos hlo, reduceCtorEq, false_iff, not_and, Option.some.injEq, Prod.mk.injEq]
      rintro ⟨_, rfl, rfl, _⟩ h; exact hs.1 h hlo
    · simp only [if_neg hlo, Option.some.injEq, Prod.mk.injEq, iff_self_and]
      rintro ⟨_, rfl, rfl, _⟩; exact hs.2 hlo

theorem decHeadStrict_encHead {mt n : Nat} {r : Bytes} (hmt : mt < 8) (hn : n < 18446744073709551616) :
    decHeadStrict (encHead mt n ++ r) = some (mt, headAi n, n, r) :=
  decHeadStrict_eq_some.2 ⟨decHead_encHead hmt hn, rfl⟩

/-- What `decodeStrict (f + 1)` makes of an input whose strict head is `(mt, ai, arg, r)`. -/
inductive StrictStep (f : Nat) : Nat × Nat × Nat × Bytes → Item → Bytes → Prop
  | uint {ai arg r} : StrictStep f (0, ai, arg, r) (.uint arg) r
  | nint {ai arg r} : StrictStep f (1, ai, arg, r) (.nint arg) r
  | bstr {ai c r} : c.length < maxLen → StrictStep f (2, ai, c.length, c ++ r) (.bstr c) r
  | tstr {ai c r} : c.length < maxLen → StrictStep f (3, ai, c.length, c ++ r) (.tstr c) r
  | arr {ai arg r xs r'} : arg < maxLen → decodeStrictItems f arg r = some (xs, r') →
      StrictStep f (4, ai, arg, r) (.arr xs) r'
  | map {ai arg r ps r'} : 2 * arg < maxLen → decodeStrictPairs f arg r = some (ps, r') → ps.StrictSorted = true →
      StrictStep f (5, ai, arg, r) (.map ps) r'
  | tag {ai arg r x r'} : decodeStrict f r = some (x, r') → StrictStep f (6, ai, arg, r) (.tag arg x) r'
  | simple {ai arg r} : ai < 24 → StrictStep f (7, ai, arg, r) (.simple ai) r

theorem decodeStrict_succ_eq_some {f : Nat} {b : Bytes} {v : Item} {r' : Bytes} :
    decodeStrict (f + 1) b = some (v, r') ↔ ∃ q, decHeadStrict b = some q ∧ StrictStep f q v r' := by
  constructor
  · intro h
    -- as in `decode_succ_eq_some`
    generalize hg : f + 1 = g at h
    revert hg h
    fun_cases decodeStrict g b <;> intro hg h <;> cases hg <;> cases h
    next hd => exact ⟨_, hd, .uint⟩
    next _ hd => exact ⟨_, hd, .nint⟩
    next hl _ _ hd =>
      obtain ⟨c, r', rfl, rfl, e1, e2⟩ := exists_append_of_le_length (Nat.le_of_not_lt (not_or.mp hl).2)
      rw [e1, e2]; exact ⟨_, hd, .bstr (Nat.lt_of_not_le (not_or.mp hl).1)⟩
    next hl _ _ _ hd =>
      obtain ⟨c, r', rfl, rfl, e1, e2⟩ := exists_append_of_le_length (Nat.le_of_not_lt (not_or.mp hl).2)
      rw [e1, e2]; exact ⟨_, hd, .tstr (Nat.lt_of_not_le (not_or.mp hl).1)⟩
    next hd hi => exact ⟨_, hd, .arr (Nat.lt_of_not_le ‹¬ _ ≥ maxLen›) hi⟩
    next hd hi => exact ⟨_, hd, .map (Nat.lt_of_not_le ‹¬ 2 * _ ≥ maxLen›) hi ‹_ = true›⟩
    next hd hi => exact ⟨_, hd, .tag hi⟩
    next mt _ _ _ _ _ _ _ _ _ h24 hd =>
      obtain rfl : mt = 7 := by have := (decHead_bounds (decHeadStrict_eq_some.1 hd).1).1; omega
      exact ⟨_, hd, .simple h24⟩
  · rintro ⟨q, hd, st⟩
    cases st with
    | uint | nint => simp [decodeStrict, hd]
    | bstr hl | tstr hl => simp [decodeStrict, hd]; omega
    | arr hl hi => simp [decodeStrict, hd, hi]; omega
    | map hl hi hs => simp [decodeStrict, hd, hi, hs]; omega
    | tag hi => simp [decodeStrict, hd, hi]
    | simple h => simp [decodeStrict, hd, h]

theorem decodeStrictItems_zero (f : Nat) (b : Bytes) : decodeStrictItems f 0 b = some (.nil, b) := by
  cases f <;> rfl

theorem decodeStrictPairs_zero (f : Nat) (b : Bytes) : decodeStrictPairs f 0 b = some (.nil, b) := by
  cases f <;> rfl

theorem decodeStrictItems_succ_some {f n : Nat} {b : Bytes} {ys : Items} {r : Bytes}
    (h : decodeStrictItems (f + 1) (n + 1) b = some (ys, r)) :
    ∃ x r1 xs, decodeStrict f b = some (x, r1) ∧ decodeStrictItems f n r1 = some (xs, r) ∧ ys = .cons x xs := by
  rw [decodeStrictItems] at h
  split at h
  · cases h
  · split at h
    · cases h
    · cases h; exact ⟨_, _, _, ‹_›, ‹_›, rfl⟩

theorem decodeStrictPairs_succ_some {f n : Nat} {b : Bytes} {qs : Pairs} {r : Bytes}
    (h : decodeStrictPairs (f + 1) (n + 1) b = some (qs, r)) :
    ∃ k r1 v r2 ps, decodeStrict f b = some (k, r1) ∧ decodeStrict f r1 = some (v, r2) ∧
      decodeStrictPairs f n r2 = some (ps, r) ∧ qs = .cons k v ps := by
  rw [decodeStrictPairs] at h
  split at h
  · cases h
  · split at h
    · cases h
    · split at h
      · cases h
      · cases h; exact ⟨_, _, _, _, _, ‹_›, ‹_›, ‹_›, rfl⟩

/-! ### canonical items -/

mutual
/-- Items in canonical form: every map has strictly ascending encoded keys; major type 7 carries
only one-byte simple values (false, true, null, undefined, …). -/
def Item.Canonical : Item → Prop
  | .arr xs => xs.Canonical
  | .map ps => ps.Canonical ∧ ps.StrictSorted = true
  | .tag _ x => x.Canonical
  | .m7 _ _ => False
  | _ => True
def Items.Canonical : Items → Prop
  | .nil => True
  | .cons x xs => x.Canonical ∧ xs.Canonical
def Pairs.Canonical : Pairs → Prop
  | .nil => True
  | .cons k v ps => k.Canonical ∧ v.Canonical ∧ ps.Canonical
end

/-- Everything the strict decoder promises about an accepted input. -/
def StrictOK (f : Nat) (b : Bytes) (v : Item) (r : Bytes) : Prop :=
  b = encode v ++ r ∧ v.WF ∧ v.Canonical ∧ ∀ d, v.depth ≤ d → decode f d b = some (v, r)

mutual
theorem decodeStrict_sound (f : Nat) (b : Bytes) (v : Item) (r : Bytes)
    (h : decodeStrict f b = some (v, r)) : StrictOK f b v r := by
  match f with
  | 0 => simp [decodeStrict] at h
  | f+1 =>
    obtain ⟨⟨mt, ai, arg, r0⟩, hd, st⟩ := decodeStrict_succ_eq_some.1 h
    obtain ⟨hd, rfl⟩ := decHeadStrict_eq_some.1 hd
    have harg := decHead_arg_lt hd
    have hb := decHead_shortest hd
    cases st with
    | uint => exact ⟨hb, harg, trivial, fun d _ => decode_succ_eq_some.2 ⟨_, hd, .uint⟩⟩
    | nint => exact ⟨hb, harg, trivial, fun d _ => decode_succ_eq_some.2 ⟨_, hd, .nint⟩⟩
    | simple h1 =>
      have ha : arg = headAi arg := (decHead_eq_some.1 hd).2.2.1 h1
      exact ⟨by rw [hb, encode, ← ha, encHead, if_pos (ha ▸ h1)], h1, trivial,
        fun d _ => decode_succ_eq_some.2 ⟨_, hd, .simple h1⟩⟩
    | bstr h1 =>
      exact ⟨by rw [hb, encode, List.append_assoc], h1, trivial, fun d _ => decode_succ_eq_some.2 ⟨_, hd, .bstr h1⟩⟩
    | tstr h1 =>
      exact ⟨by rw [hb, encode, List.append_assoc], h1, trivial, fun d _ => decode_succ_eq_some.2 ⟨_, hd, .tstr h1⟩⟩
    | arr h1 hi =>
      obtain ⟨e1, rfl, e3, e4, e5⟩ := decodeStrictItems_sound f _ r0 _ r hi
      refine ⟨by rw [hb, e1, encode, List.append_assoc], ⟨h1, e3⟩, e4, fun d hd' => ?_⟩
      simp only [Item.depth] at hd'
      obtain ⟨d, rfl⟩ : ∃ d', d = d' + 1 := ⟨d - 1, by omega⟩
      exact decode_succ_eq_some.2 ⟨_, hd, .arr h1 (e5 d (by omega))⟩
    | map h1 hi hs =>
      obtain ⟨e1, rfl, e3, e4, e5⟩ := decodeStrictPairs_sound f _ r0 _ r hi
      refine ⟨by rw [hb, e1, encode, List.append_assoc], ⟨h1, e3⟩, ⟨e4, hs⟩, fun d hd' => ?_⟩
      simp only [Item.depth] at hd'
      obtain ⟨d, rfl⟩ : ∃ d', d = d' + 1 := ⟨d - 1, by omega⟩
      exact decode_succ_eq_some.2 ⟨_, hd, .map h1 (e5 d (by omega))⟩
    | tag hi =>
      obtain ⟨e1, e3, e4, e5⟩ := decodeStrict_sound f r0 _ r hi
      refine ⟨by rw [hb, e1, encode, List.append_assoc], ⟨harg, e3⟩, e4, fun d hd' => ?_⟩
      simp only [Item.depth] at hd'
      obtain ⟨d, rfl⟩ : ∃ d', d = d' + 1 := ⟨d - 1, by omega⟩
      exact decode_succ_eq_some.2 ⟨_, hd, .tag (e5 d (by omega))⟩
termination_by f
theorem decodeStrictItems_sound (f n : Nat) (b : Bytes) (xs : Items) (r : Bytes)
    (h : decodeStrictItems f n b = some (xs, r)) :
    b = encodeItems xs ++ r ∧ xs.length = n ∧ xs.WF ∧ xs.Canonical ∧
      ∀ d, xs.depth ≤ d → decodeItems f d n b = some (xs, r) := by
  match f, n with
  | f, 0 =>
    obtain ⟨rfl, rfl⟩ : Items.nil = xs ∧ b = r := by simpa [decodeStrictItems_zero] using h
    exact ⟨rfl, rfl, trivial, trivial, fun d _ => decodeItems_zero f d _⟩
  | 0, n+1 => simp [decodeStrictItems] at h
  | f+1, n+1 =>
    obtain ⟨x, r1, ys, h1, h2, rfl⟩ := decodeStrictItems_succ_some h
    obtain ⟨a1, a3, a4, a5⟩ := decodeStrict_sound f b x r1 h1
    obtain ⟨b1, b2, b3, b4, b5⟩ := decodeStrictItems_sound f n r1 ys r h2
    refine ⟨by rw [a1, b1, encodeItems, List.append_assoc], by rw [Items.length, b2], ⟨a3, b3⟩, ⟨a4, b4⟩,
      fun d hd => ?_⟩
    simp only [Items.depth] at hd
    rw [decodeItems, a5 d (by omega)]
    simp only [b5 d (by omega)]
termination_by f
theorem decodeStrictPairs_sound (f n : Nat) (b : Bytes) (ps : Pairs) (r : Bytes)
    (h : decodeStrictPairs f n b = some (ps, r)) :
    b = encodePairs ps ++ r ∧ ps.length = n ∧ ps.WF ∧ ps.Canonical ∧
      ∀ d, ps.depth ≤ d → decodePairs f d n b = some (ps, r) := by
  match f, n with
  | f, 0 =>
    obtain ⟨rfl, rfl⟩ : Pairs.nil = ps ∧ b = r := by simpa [decodeStrictPairs_zero] using h
    exact ⟨rfl, rfl, trivial, trivial, fun d _ => decodePairs_zero f d _⟩
  | 0, n+1 => simp [decodeStrictPairs] at h
  | f+1, n+1 =>
    obtain ⟨k, r1, v, r2, qs, h1, h2, h3, rfl⟩ := decodeStrictPairs_succ_some h
    obtain ⟨a1, a3, a4, a5⟩ := decodeStrict_sound f b k r1 h1
    obtain ⟨c1, c3, c4, c5⟩ := decodeStrict_sound f r1 v r2 h2
    obtain ⟨b1, b2, b3, b4, b5⟩ := decodeStrictPairs_sound f n r2 qs r h3
    refine ⟨by rw [a1, c1, b1, encodePairs, List.append_assoc, List.append_assoc], by rw [Pairs.length, b2],
      ⟨a3, c3, b3⟩, ⟨a4, c4, b4⟩, fun d hd => ?_⟩
    simp only [Pairs.depth] at hd
    rw [decodePairs, a5 d (by omega)]
    simp only [c5 d (by omega), b5 d (by omega)]
termination_by f
end

/-! ### the strict decoder accepts every canonical encoding -/

mutual
theorem decodeStrict_encode (x : Item) (hx : x.WF) (hc : x.Canonical) (r : Bytes) (f : Nat) (hf : x.size ≤ f) :
    decodeStrict f (encode x ++ r) = some (x, r) := by
  match f, x with
  | 0, x => have := x.size_pos; omega
  | f+1, .uint n => exact decodeStrict_succ_eq_some.2 ⟨_, decHeadStrict_encHead (mt := 0) (by omega) hx, .uint⟩
  | f+1, .nint n => exact decodeStrict_succ_eq_some.2 ⟨_, decHeadStrict_encHead (mt := 1) (by omega) hx, .nint⟩
  | f+1, .bstr b =>
    have hx : b.length < maxLen := hx
    rw [encode, List.append_assoc]
    exact decodeStrict_succ_eq_some.2
      ⟨_, decHeadStrict_encHead (mt := 2) (by omega) (lt_of_lt_maxLen hx), .bstr hx⟩
  | f+1, .tstr b =>
    have hx : b.length < maxLen := hx
    rw [encode, List.append_assoc]
    exact decodeStrict_succ_eq_some.2
      ⟨_, decHeadStrict_encHead (mt := 3) (by omega) (lt_of_lt_maxLen hx), .tstr hx⟩
  | f+1, .arr xs =>
    obtain ⟨hl, hx⟩ : xs.length < maxLen ∧ xs.WF := hx
    simp only [Item.size] at hf
    rw [encode, List.append_assoc]
    exact decodeStrict_succ_eq_some.2 ⟨_, decHeadStrict_encHead (mt := 4) (by omega) (lt_of_lt_maxLen hl),
      .arr hl (decodeStrictItems_encode xs hx hc r f (by omega))⟩
  | f+1, .map ps =>
    obtain ⟨hl, hx⟩ : 2 * ps.length < maxLen ∧ ps.WF := hx
    obtain ⟨hc, hs⟩ : ps.Canonical ∧ ps.StrictSorted = true := hc
    simp only [Item.size] at hf
    rw [encode, List.append_assoc]
    exact decodeStrict_succ_eq_some.2
      ⟨_, decHeadStrict_encHead (mt := 5) (by omega) (lt_of_lt_maxLen (by omega)),
        .map hl (decodeStrictPairs_encode ps hx hc r f (by omega)) hs⟩
  | f+1, .tag t x =>
    obtain ⟨hl, hx⟩ : t < 18446744073709551616 ∧ x.WF := hx
    simp only [Item.size] at hf
    rw [encode, List.append_assoc]
    exact decodeStrict_succ_eq_some.2 ⟨_, decHeadStrict_encHead (mt := 6) (by omega) hl,
      .tag (decodeStrict_encode x hx hc r f (by omega))⟩
  | f+1, .simple v =>
    have hx : v < 24 := hx
    exact decodeStrict_succ_eq_some.2
      ⟨_, decHeadStrict_eq_some.2 ⟨decHead_small r (by omega) hx, (headAi_small hx).symm⟩, .simple hx⟩
  | f+1, .m7 ai arg => exact hc.elim
termination_by f
theorem decodeStrictItems_encode (xs : Items) (hx : xs.WF) (hc : xs.Canonical) (r : Bytes) (f : Nat) (hf : xs.size ≤ f) :
    decodeStrictItems f xs.length (encodeItems xs ++ r) = some (xs, r) := by
  match f, xs with
  | f, .nil => exact decodeStrictItems_zero f _
  | 0, .cons x xs => simp [Items.size] at hf
  | f+1, .cons x xs =>
    simp only [Items.size] at hf
    rw [Items.length, encodeItems, List.append_assoc, decodeStrictItems,
      decodeStrict_encode x hx.1 hc.1 _ f (by omega)]
    simp only [decodeStrictItems_encode xs hx.2 hc.2 r f (by omega)]
termination_by f
theorem decodeStrictPairs_encode (ps : Pairs) (hx : ps.WF) (hc : ps.Canonical) (r : Bytes) (f : Nat) (hf : ps.size ≤ f) :
    decodeStrictPairs f ps.length (encodePairs ps ++ r) = some (ps, r) := by
  match f, ps with
  | f, .nil => exact decodeStrictPairs_zero f _
  | 0, .cons k v ps => simp [Pairs.size] at hf
  | f+1, .cons k v ps =>
    simp only [Pairs.size] at hf
    rw [Pairs.length, encodePairs, List.append_assoc, List.append_assoc, decodeStrictPairs,
      decodeStrict_encode k hx.1 hc.1 _ f (by omega)]
    simp only [decodeStrict_encode v hx.2.1 hc.2.1 _ f (by omega),
      decodeStrictPairs_encode ps hx.2.2 hc.2.2 r f (by omega)]
termination_by f
end


/-! ### the bytewise order, insertion sort, and what the encoder does to maps -/

/-- `bytesLt` is the lexicographic order core Lean puts on lists. -/
theorem bytesLt_iff (a b : Bytes) : bytesLt a b = true ↔ a < b := by
  fun_induction bytesLt a b
  · simp
  · simp
  · simp
  next x _ y _ h => simp [List.cons_lt_cons_iff, UInt8.lt_iff_toNat_lt, h]
  next x _ y _ h1 h2 => simp [List.cons_lt_cons_iff, UInt8.lt_iff_toNat_lt, ← UInt8.toNat_inj, h1]; omega
  next x _ y _ h1 h2 ih => simp [List.cons_lt_cons_iff, UInt8.lt_iff_toNat_lt, ← UInt8.toNat_inj, h1, ← ih]; omega

theorem bytesLt_irrefl (a : Bytes) : bytesLt a a = false :=
  Bool.eq_false_iff.2 fun h => List.lt_irrefl a ((bytesLt_iff a a).1 h)

theorem bytesLt_asymm (a b : Bytes) (h : bytesLt a b = true) : bytesLt b a = false :=
  Bool.eq_false_iff.2 fun h' => List.lt_asymm ((bytesLt_iff a b).1 h) ((bytesLt_iff b a).1 h')

theorem bytesLt_trans (a b c : Bytes) (h1 : bytesLt a b = true) (h2 : bytesLt b c = true) : bytesLt a c = true :=
  (bytesLt_iff a c).2 (List.lt_trans ((bytesLt_iff a b).1 h1) ((bytesLt_iff b c).1 h2))

theorem bytesLt_total (a b : Bytes) (h1 : bytesLt a b = false) (h2 : bytesLt b a = false) : a = b :=
  List.le_antisymm (List.not_lt.1 fun h => by simp [(bytesLt_iff b a).2 h] at h2)
    (List.not_lt.1 fun h => by simp [(bytesLt_iff a b).2 h] at h1)

/-- the encoded key `e` occurs among the keys of `ps` -/
def Pairs.hasKey (e : Bytes) : Pairs → Prop
  | .nil => False
  | .cons k _ ps => e = encode k ∨ ps.hasKey e

/-- no two pairs have the same encoded key (a Go map never does; a struct-keyed `any` map whose
keys encode identically is outside the data model) -/
def Pairs.KeysDistinct : Pairs → Prop
  | .nil => True
  | .cons k _ ps => ¬ ps.hasKey (encode k) ∧ ps.KeysDistinct

/-- `e` is strictly below the first key -/
def Pairs.lbound (e : Bytes) : Pairs → Prop
  | .nil => True
  | .cons k _ _ => bytesLt e (encode k) = true

theorem strictSorted_cons (k v : Item) (ps : Pairs) :
    (Pairs.cons k v ps).StrictSorted = true ↔ ps.lbound (encode k) ∧ ps.StrictSorted = true := by
  cases ps with
  | nil | cons k' v' ps => simp [Pairs.StrictSorted, Pairs.lbound]

/-- A predicate that speaks of a pair list pair by pair (`hc`) does not see where `insert` puts the
new pair: it holds of the result iff it holds of the pair and of the list. -/
theorem insert_all {P : Pairs → Prop} {Q : Item → Item → Prop} (hc : ∀ k v ps, P (.cons k v ps) ↔ Q k v ∧ P ps)
    (k v : Item) (ps : Pairs) : P (Pairs.insert k v ps) ↔ Q k v ∧ P ps := by
  fun_induction Pairs.insert k v ps
  · exact hc k v .nil
  next ih => rw [hc, ih, hc]; exact and_left_comm
  · rw [hc]

/-- A predicate that speaks of a pair list pair by pair (`hc`) does not see the order of the pairs,
so `sort` leaves it as it was. `sort_wf`, `sort_canonical`, `not_hasKey_sort` are instances. -/
theorem sort_all {P : Pairs → Prop} {Q : Item → Item → Prop} (hc : ∀ k v ps, P (.cons k v ps) ↔ Q k v ∧ P ps)
    (ps : Pairs) : P (Pairs.sort ps) ↔ P ps := by
  match ps with
  | .nil => exact Iff.rfl
  | .cons k v ps => rw [Pairs.sort, insert_all hc, sort_all hc ps, hc]

theorem not_hasKey_sort (e : Bytes) (ps : Pairs) : ¬ (Pairs.sort ps).hasKey e ↔ ¬ ps.hasKey e :=
  sort_all (P := fun ps => ¬ ps.hasKey e) (Q := fun k _ => ¬ e = encode k) (fun _ _ _ => not_or) ps

theorem sort_wf (ps : Pairs) (hp : ps.WF) : (Pairs.sort ps).WF :=
  (sort_all (Q := fun k v => k.WF ∧ v.WF) (fun _ _ _ => and_assoc.symm) ps).2 hp

theorem sort_canonical (ps : Pairs) (hp : ps.Canonical) : (Pairs.sort ps).Canonical :=
  (sort_all (Q := fun k v => k.Canonical ∧ v.Canonical) (fun _ _ _ => and_assoc.symm) ps).2 hp

theorem lbound_insert (a : Bytes) (k v : Item) (ps : Pairs) (h1 : ps.lbound a) (h2 : bytesLt a (encode k) = true) :
    (Pairs.insert k v ps).lbound a := by
  -- the list is empty; its first pair stays in front; the new pair goes in front
  fun_cases Pairs.insert k v ps
  · exact h2
  · exact h1
  · exact h2

theorem insert_strictSorted (k v : Item) (ps : Pairs) (hs : ps.StrictSorted = true) (hk : ¬ ps.hasKey (encode k)) :
    (Pairs.insert k v ps).StrictSorted = true := by
  fun_induction Pairs.insert k v ps
  · rfl
  next k' v' ps hlt ih =>
    simp only [Pairs.hasKey, not_or] at hk
    rw [strictSorted_cons] at hs ⊢
    exact ⟨lbound_insert _ k v ps hs.1 hlt, ih hs.2 hk.2⟩
  next k' v' ps hnlt =>
    simp only [Pairs.hasKey, not_or] at hk
    rw [strictSorted_cons]
    refine ⟨?_, hs⟩
    cases hb : bytesLt (encode k) (encode k') with
    | true => exact hb
    | false => exact absurd (bytesLt_total _ _ hb (by simpa using hnlt)) hk.1

theorem sort_strictSorted (ps : Pairs) (hd : ps.KeysDistinct) : (Pairs.sort ps).StrictSorted = true := by
  fun_induction Pairs.sort ps
  · rfl
  next k v ps ih => exact insert_strictSorted k v _ (ih hd.2) ((not_hasKey_sort _ _).2 hd.1)

theorem insert_length (k v : Item) (ps : Pairs) : (Pairs.insert k v ps).length = ps.length + 1 := by
  fun_induction Pairs.insert k v ps <;> simp [Pairs.length, *]

theorem sort_length (ps : Pairs) : (Pairs.sort ps).length = ps.length := by
  match ps with
  | .nil => rfl
  | .cons k v ps => have ih := sort_length ps; simp [Pairs.sort, insert_length, Pairs.length, ih]

theorem norm_length_items (xs : Items) : xs.norm.length = xs.length := by
  match xs with
  | .nil => rfl
  | .cons x xs => have ih := norm_length_items xs; simp [Items.norm, Items.length, ih]

theorem norm_length_pairs (ps : Pairs) : ps.norm.length = ps.length := by
  match ps with
  | .nil => rfl
  | .cons k v ps => have ih := norm_length_pairs ps; simp [Pairs.norm, Pairs.length, ih]

mutual
/-- What can be handed to the encoder: no two keys of a map encode identically (after their own maps
were put in order), and major type 7 carries one-byte simple values only. -/
def Item.Marshalable : Item → Prop
  | .arr xs => xs.Marshalable
  | .map ps => ps.Marshalable ∧ ps.norm.KeysDistinct
  | .tag _ x => x.Marshalable
  | .m7 _ _ => False
  | _ => True
def Items.Marshalable : Items → Prop
  | .nil => True
  | .cons x xs => x.Marshalable ∧ xs.Marshalable
def Pairs.Marshalable : Pairs → Prop
  | .nil => True
  | .cons k v ps => k.Marshalable ∧ v.Marshalable ∧ ps.Marshalable
end

mutual
theorem norm_wf (x : Item) (hx : x.WF) : x.norm.WF := by
  match x with
  | .uint _ | .nint _ | .bstr _ | .tstr _ | .simple _ | .m7 _ _ => simpa [Item.norm] using hx
  | .arr xs =>
    simp only [Item.norm, Item.WF, norm_length_items]; exact ⟨hx.1, norm_wf_items xs hx.2⟩
  | .map ps =>
    simp only [Item.norm, Item.WF, sort_length, norm_length_pairs]
    exact ⟨hx.1, sort_wf _ (norm_wf_pairs ps hx.2)⟩
  | .tag t y =>
    exact ⟨hx.1, norm_wf y hx.2⟩
theorem norm_wf_items (xs : Items) (hx : xs.WF) : xs.norm.WF := by
  match xs with
  | .nil => simp [Items.norm, Items.WF]
  | .cons x xs => exact ⟨norm_wf x hx.1, norm_wf_items xs hx.2⟩
theorem norm_wf_pairs (ps : Pairs) (hx : ps.WF) : ps.norm.WF := by
  match ps with
  | .nil => simp [Pairs.norm, Pairs.WF]
  | .cons k v ps => exact ⟨norm_wf k hx.1, norm_wf v hx.2.1, norm_wf_pairs ps hx.2.2⟩
end

mutual
theorem norm_canonical (x : Item) (hm : x.Marshalable) : x.norm.Canonical := by
  match x with
  | .uint _ | .nint _ | .bstr _ | .tstr _ | .simple _ => simp [Item.norm, Item.Canonical]
  | .m7 _ _ => simp [Item.Marshalable] at hm
  | .arr xs => simpa [Item.norm, Item.Canonical] using norm_canonical_items xs hm
  | .map ps =>
    exact ⟨sort_canonical _ (norm_canonical_pairs ps hm.1), sort_strictSorted _ hm.2⟩
  | .tag t y => simpa [Item.norm, Item.Canonical] using norm_canonical y hm
theorem norm_canonical_items (xs : Items) (hm : xs.Marshalable) : xs.norm.Canonical := by
  match xs with
  | .nil => simp [Items.norm, Items.Canonical]
  | .cons x xs => exact ⟨norm_canonical x hm.1, norm_canonical_items xs hm.2⟩
theorem norm_canonical_pairs (ps : Pairs) (hm : ps.Marshalable) : ps.norm.Canonical := by
  match ps with
  | .nil => simp [Pairs.norm, Pairs.Canonical]
  | .cons k v ps =>
    exact ⟨norm_canonical k hm.1, norm_canonical v hm.2.1, norm_canonical_pairs ps hm.2.2⟩
end


/-! ### the order in which a map's pairs are handed to the encoder does not matter -/

/-- the case `k1` below `k2` of `insert_comm`; the other is its mirror image -/
theorem insert_comm_lt (k1 v1 k2 v2 : Item) (h12 : bytesLt (encode k1) (encode k2) = true) (ps : Pairs) :
    Pairs.insert k1 v1 (Pairs.insert k2 v2 ps) = Pairs.insert k2 v2 (Pairs.insert k1 v1 ps) := by
  have h21 := bytesLt_asymm _ _ h12
  fun_induction Pairs.insert k1 v1 ps
  · simp [Pairs.insert, h12, h21]
  next k' v' ps a1 ih => simp [Pairs.insert, a1, bytesLt_trans _ _ _ a1 h12, ih]
  next k' v' ps a1 => cases a2 : bytesLt (encode k') (encode k2) <;> simp [Pairs.insert, a1, a2, h12, h21]

theorem insert_comm (k1 v1 k2 v2 : Item) (hne : encode k1 ≠ encode k2) (ps : Pairs) :
    Pairs.insert k1 v1 (Pairs.insert k2 v2 ps) = Pairs.insert k2 v2 (Pairs.insert k1 v1 ps) := by
  cases h12 : bytesLt (encode k1) (encode k2) with
  | true => exact insert_comm_lt k1 v1 k2 v2 h12 ps
  | false =>
    cases h21 : bytesLt (encode k2) (encode k1) with
    | true => exact (insert_comm_lt k2 v2 k1 v1 h21 ps).symm
    | false => exact absurd (bytesLt_total _ _ h12 h21) hne

/-- the keys of a pair list encode pairwise differently -/
def DistinctKeysL (l : List (Item × Item)) : Prop := l.Pairwise (fun a b => encode a.1 ≠ encode b.1)

theorem sort_ofList_cons (x : Item × Item) (l : List (Item × Item)) :
    Pairs.sort (Pairs.ofList (x :: l)) = Pairs.insert x.1 x.2 (Pairs.sort (Pairs.ofList l)) := by
  rfl

theorem sort_perm (l1 l2 : List (Item × Item)) (h : l1.Perm l2) (hd : DistinctKeysL l1) :
    Pairs.sort (Pairs.ofList l1) = Pairs.sort (Pairs.ofList l2) := by
  induction h with
  | nil => rfl
  | cons x _ ih =>
    rw [sort_ofList_cons, sort_ofList_cons, ih (List.Pairwise.of_cons hd)]
  | swap x y l =>
    exact insert_comm y.1 y.2 x.1 x.2 ((List.pairwise_cons.mp hd).1 x (by simp)) _
  | trans p1 _ ih1 ih2 =>
    rw [ih1 hd]
    exact ih2 ((List.Perm.pairwise_iff (fun h => Ne.symm h) p1).mp hd)

theorem ofList_toList (ps : Pairs) : Pairs.ofList ps.toList = ps := by
  match ps with
  | .nil => rfl
  | .cons k v ps => simp [Pairs.toList, Pairs.ofList, ofList_toList ps]

theorem norm_toList (ps : Pairs) : ps.norm.toList = ps.toList.map (fun p => (p.1.norm, p.2.norm)) := by
  match ps with
  | .nil => rfl
  | .cons k v ps => simp [Pairs.norm, Pairs.toList, norm_toList ps]

end Fdo.Cbor
