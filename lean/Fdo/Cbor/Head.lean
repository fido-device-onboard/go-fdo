import Fdo.Cbor.Item
/-
Heads. `decHead_eq_some` says which byte strings `decHead` accepts and what it returns for them; the other
facts about a successful `decHead` are read off it. `headAi n` names the additional info `encHead` chooses
for `n`, so that `encHead_eq` puts an encoded head in the shape `decHead_eq_some` speaks of; the five head
widths are told apart in `headAi_cases` (and once more for the lengths, `encHead_length`).
-/
namespace Fdo.Cbor
open Fdo

theorem argWidth_small {ai : Nat} (h : ai < 24) : argWidth ai = 0 := by
  unfold argWidth
  rw [if_neg (by omega), if_neg (by omega), if_neg (by omega), if_neg (by omega)]

theorem decHead_eq_some {b : Bytes} {mt ai arg : Nat} {r : Bytes} :
    decHead b = some (mt, ai, arg, r) ↔
      mt < 8 ∧ ai < 28 ∧ (ai < 24 → arg = ai) ∧ (24 ≤ ai → arg < 256 ^ argWidth ai) ∧
        b = UInt8.ofNat (mt * 32 + ai) :: (natBE (argWidth ai) arg ++ r) := by
  constructor
  · have ex : ∀ x : UInt8, UInt8.ofNat (x.toNat / 32 * 32 + x.toNat % 32) = x := fun x => by
      rw [Nat.div_add_mod']; simp
    -- the three leaves that refuse are closed by `simp`; `ai'` is the definition's `let ai := x.toNat % 32`
    fun_cases decHead b <;> intro h <;> simp only [reduceCtorEq, Option.some.injEq, Prod.mk.injEq] at h
    next x t _ _ h24 =>
      obtain ⟨rfl, rfl, rfl, rfl⟩ := h
      have hx : x.toNat < 256 := UInt8.toNat_lt x
      exact ⟨by omega, by omega, fun _ => rfl, by omega, by rw [argWidth_small h24, ex]; rfl⟩
    next x t _ ai' h24 h28 hlen =>
      obtain ⟨rfl, rfl, rfl, rfl⟩ := h
      have hx : x.toNat < 256 := UInt8.toNat_lt x
      have hlt := beNat_lt (t.take (argWidth ai'))
      have hnb := natBE_beNat (t.take (argWidth ai'))
      rw [List.length_take, Nat.min_eq_left (by omega)] at hlt hnb
      exact ⟨by omega, by omega, by omega, fun _ => hlt, by rw [hnb, ex, List.take_append_drop]⟩
  · rintro ⟨hmt, hai, hs, hw, rfl⟩
    have hb : (UInt8.ofNat (mt * 32 + ai)).toNat = mt * 32 + ai := UInt8.toNat_ofNat_of_lt' (by omega : _ < 256)
    have h1 : (mt * 32 + ai) / 32 = mt := by omega
    have h2 : (mt * 32 + ai) % 32 = ai := by omega
    simp only [decHead, hb, h1, h2]
    by_cases h : ai < 24
    · rw [if_pos h, argWidth_small h, hs h]; rfl
    · rw [if_neg h, if_neg (by omega), if_neg (by simp),
        List.take_left' (natBE_length _ arg), List.drop_left' (natBE_length _ arg),
        beNat_natBE _ arg (hw (by omega))]

theorem decHead_reserved {x : UInt8} {t : Bytes} (h : x.toNat % 32 ≥ 28) : decHead (x :: t) = none := by
  simp only [decHead]
  rw [if_neg (by omega), if_pos h]

theorem decHead_cons (mt ai n : Nat) (r : Bytes) (hmt : mt < 8) (hai : ai < 28)
    (hs : ai < 24 → n = ai) (hw : 24 ≤ ai → n < 256 ^ argWidth ai) :
    decHead (UInt8.ofNat (mt * 32 + ai) :: (natBE (argWidth ai) n ++ r)) = some (mt, ai, n, r) :=
  decHead_eq_some.2 ⟨hmt, hai, hs, hw, rfl⟩

theorem decHead_small {mt ai : Nat} (r : Bytes) (hmt : mt < 8) (h : ai < 24) :
    decHead (UInt8.ofNat (mt * 32 + ai) :: r) = some (mt, ai, ai, r) := by
  have := decHead_cons mt ai ai r hmt (by omega) (fun _ => rfl) (by omega)
  rwa [argWidth_small h] at this

theorem decHead_split (b : Bytes) {mt ai arg : Nat} {r : Bytes} (h : decHead b = some (mt, ai, arg, r)) :
    ∃ hd, b = hd ++ r ∧ 1 ≤ hd.length ∧ ∀ t, decHead (hd ++ t) = some (mt, ai, arg, t) :=
  let ⟨hmt, hai, hs, hw, e⟩ := decHead_eq_some.1 h
  ⟨_ :: natBE (argWidth ai) arg, e, by simp, fun t => decHead_cons mt ai arg t hmt hai hs hw⟩

theorem decHead_bounds {b r : Bytes} {mt ai arg : Nat} (hd : decHead b = some (mt, ai, arg, r)) : mt < 8 ∧ ai < 28 :=
  let ⟨hmt, hai, _⟩ := decHead_eq_some.1 hd
  ⟨hmt, hai⟩

theorem decHead_arg_lt {b r : Bytes} {mt ai arg : Nat} (hd : decHead b = some (mt, ai, arg, r)) :
    arg < 18446744073709551616 := by
  obtain ⟨_, hai, hs, hw, _⟩ := decHead_eq_some.1 hd
  by_cases h : ai < 24
  · have := hs h; omega
  · rcases (by omega : ai = 24 ∨ ai = 25 ∨ ai = 26 ∨ ai = 27) with rfl | rfl | rfl | rfl <;>
      exact Nat.lt_of_lt_of_le (hw (by omega)) (by decide)

/-- additional info of the shortest-form head that `encHead` writes for the argument `n` -/
def headAi (n : Nat) : Nat :=
  if n < 24 then n else if n < 256 then 24 else if n < 65536 then 25 else if n < 4294967296 then 26 else 27

theorem headAi_cases (n : Nat) :
    n < 24 ∧ headAi n = n ∨ 24 ≤ n ∧ n < 256 ∧ headAi n = 24 ∨ 256 ≤ n ∧ n < 65536 ∧ headAi n = 25 ∨
      65536 ≤ n ∧ n < 4294967296 ∧ headAi n = 26 ∨ 4294967296 ≤ n ∧ headAi n = 27 := by
  fun_cases headAi n
  next h1 => exact .inl ⟨h1, rfl⟩
  next h1 h2 => exact .inr (.inl ⟨Nat.le_of_not_lt h1, h2, rfl⟩)
  next _ h2 h3 => exact .inr (.inr (.inl ⟨Nat.le_of_not_lt h2, h3, rfl⟩))
  next _ _ h3 h4 => exact .inr (.inr (.inr (.inl ⟨Nat.le_of_not_lt h3, h4, rfl⟩)))
  next _ _ _ h4 => exact .inr (.inr (.inr (.inr ⟨Nat.le_of_not_lt h4, rfl⟩)))

theorem headAi_lt (n : Nat) : headAi n < 28 := by
  rcases headAi_cases n with h | h | h | h | h <;> omega

theorem headAi_small {n : Nat} (h : n < 24) : headAi n = n := if_pos h

theorem encHead_eq (mt n : Nat) :
    encHead mt n = UInt8.ofNat (mt * 32 + headAi n) :: natBE (argWidth (headAi n)) n := by
  unfold encHead
  rcases headAi_cases n with h | h | h | h | h
  · rw [if_pos h.1, h.2, argWidth_small h.1]; rfl
  · rw [if_neg (by omega), if_pos h.2.1, h.2.2]; rfl
  · rw [if_neg (by omega), if_neg (by omega), if_pos h.2.1, h.2.2]; rfl
  · rw [if_neg (by omega), if_neg (by omega), if_neg (by omega), if_pos h.2.1, h.2.2]; rfl
  · rw [if_neg (by omega), if_neg (by omega), if_neg (by omega), if_neg (by omega), h.2]; rfl

theorem encHead_length (mt n : Nat) :
    (encHead mt n).length =
      if n < 24 then 1 else if n < 256 then 2 else if n < 65536 then 3
      else if n < 4294967296 then 5 else 9 := by
  simp only [encHead, apply_ite List.length, List.length_cons, natBE_length, List.length_nil]

theorem encHead_len_pos (mt n : Nat) : 1 ≤ (encHead mt n).length := by
  rw [encHead_eq]; exact Nat.succ_pos _

theorem encHead_ne (mt n : Nat) : encHead mt n ≠ [] :=
  List.length_pos_iff.1 (encHead_len_pos mt n)

theorem encHead_length_le (mt n : Nat) : (encHead mt n).length ≤ 9 := by
  rw [encHead_length]; repeat' split
  all_goals omega

/-- `headAi n` meets the side conditions `decHead_eq_some` puts on the info of a head with argument `n`. -/
theorem headAi_spec {n : Nat} (hn : n < 18446744073709551616) :
    (headAi n < 24 → n = headAi n) ∧ (24 ≤ headAi n → n < 256 ^ argWidth (headAi n)) := by
  -- in each wide row `256 ^ argWidth (headAi n)` computes to the row's upper bound
  rcases headAi_cases n with ⟨h, e⟩ | ⟨_, h, e⟩ | ⟨_, h, e⟩ | ⟨_, h, e⟩ | ⟨_, e⟩
  · exact ⟨fun _ => e.symm, fun _ => by omega⟩
  · rw [e]; exact ⟨fun h' => absurd h' (by decide), fun _ => h⟩
  · rw [e]; exact ⟨fun h' => absurd h' (by decide), fun _ => h⟩
  · rw [e]; exact ⟨fun h' => absurd h' (by decide), fun _ => h⟩
  · rw [e]; exact ⟨fun h' => absurd h' (by decide), fun _ => hn⟩

theorem lt_of_lt_maxLen {n : Nat} (h : n < maxLen) : n < 18446744073709551616 :=
  Nat.lt_trans h (by decide)

theorem decHead_encHead {mt n : Nat} {r : Bytes} (hmt : mt < 8) (hn : n < 18446744073709551616) :
    decHead (encHead mt n ++ r) = some (mt, headAi n, n, r) := by
  rw [encHead_eq]
  exact decHead_cons mt _ n r hmt (headAi_lt n) (headAi_spec hn).1 (headAi_spec hn).2

theorem decHead_shortest {b : Bytes} {mt n : Nat} {r : Bytes} (h : decHead b = some (mt, headAi n, n, r)) :
    b = encHead mt n ++ r := by
  rw [encHead_eq]; exact (decHead_eq_some.1 h).2.2.2.2

end Fdo.Cbor
