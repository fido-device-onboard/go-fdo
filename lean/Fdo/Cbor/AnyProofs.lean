import Fdo.Cbor.TypedFrag
import Fdo.Cbor.Reads
import Fdo.Cbor.CanonProofs
/-
decode ∘ encode = id for `interface{}` values (`encodeAny` / `decodeAny`), for the values `confAnyB` admits.
Since `decodeAny` reads only what the structural decoder reads (`decodeAny_wfl`), the encoding of such a value is
one item within the limits (`encodeAny_wfl`): that is the raw pass of every wrapper that decodes `RawBytes` first.
-/
namespace Fdo.Cbor
open Fdo

/-! ### maps: keys in encoding order are written in the order given and are pairwise distinct -/

theorem sortByKey_sorted {es : List (Bytes × Bytes)} (h : es.Pairwise fun a b => bytesLt a.1 b.1 = true) :
    sortByKey es = es :=
  List.mergeSort_of_pairwise (h.imp fun h => by simp [bytesLt_asymm _ _ h])

theorem distinct_of_sorted {α : Type} {enc : α → Bytes} {keq : α → α → Bool}
    (hk : ∀ a b, keq a b = true → enc a = enc b) {l : List α}
    (h : l.Pairwise fun a b => bytesLt (enc a) (enc b) = true) : l.Pairwise fun a b => keq a b = false :=
  h.imp fun {a b} hlt => by
    cases hab : keq a b with
    | false => rfl
    | true => rw [hk a b hab, bytesLt_irrefl] at hlt; cases hlt

theorem anyKeyEq_eq (a b : AnyVal) (h : a.keyEq b = true) : a = b := by
  unfold AnyVal.keyEq at h
  split at h
  · rw [eq_of_beq h]
  · rw [eq_of_beq h]
  · rw [eq_of_beq h]
  · cases h

/-- a key that differs from all keys before it is not found among them (`mapSet`, `vmapSet` then append) -/
theorem any_keyEq_false {α β : Type} {keq : α → α → Bool} {acc : List (α × β)} {k : α} {v : β} {ps : List (α × β)}
    (h : (acc ++ (k, v) :: ps).Pairwise fun a b => keq a.1 b.1 = false) : acc.any (fun p => keq p.1 k) = false :=
  List.any_eq_false.mpr fun p hp => by simp [(List.pairwise_append.mp h).2.2 p hp (k, v) (by simp)]

theorem mapSet_fresh {acc : List (AnyVal × AnyVal)} {k v : AnyVal} {ps : List (AnyVal × AnyVal)}
    (h : (acc ++ (k, v) :: ps).Pairwise fun a b => a.1.keyEq b.1 = false) : mapSet acc k v = acc ++ [(k, v)] := by
  simp [mapSet, any_keyEq_false h]

/-- the Boolean sortedness checks (`hdrSortedB`, `anySortedB`, `mapSortedB`) all have this shape -/
theorem pairwise_of_all {α : Type} {R : α → α → Bool} {p : List α → Bool}
    (hp : ∀ a l, p (a :: l) = (l.all (R a) && p l)) : ∀ l, p l = true → l.Pairwise fun a b => R a b = true
  | [], _ => .nil
  | a :: l, h => by
    rw [hp, Bool.and_eq_true, List.all_eq_true] at h
    exact .cons h.1 (pairwise_of_all hp l h.2)

theorem anySortedB_sound (ps : List (AnyVal × AnyVal)) (h : anySortedB ps = true) :
    ps.Pairwise fun a b => bytesLt (encodeAny a.1) (encodeAny b.1) = true :=
  pairwise_of_all (fun _ _ => rfl) ps h

/-- the flattened pairs of a map, in the order given -/
def flatAny : List (AnyVal × AnyVal) → Bytes
  | [] => []
  | (k, v) :: ps => encodeAny k ++ (encodeAny v ++ flatAny ps)

theorem encodeAny_map_sorted (ps : List (AnyVal × AnyVal)) (hs : anySortedB ps = true) :
    encodeAny (.map ps) = encHead 5 ps.length ++ flatAny ps := by
  have hm : ∀ ps : List (AnyVal × AnyVal), encodeAnyPairs ps = ps.map fun p => (encodeAny p.1, encodeAny p.2) := by
    intro ps; induction ps with
    | nil => rfl
    | cons kv ps ih => simp [encodeAnyPairs, ih]
  have hf : ∀ ps : List (AnyVal × AnyVal), ((encodeAnyPairs ps).map fun p => p.1 ++ p.2).flatten = flatAny ps := by
    intro ps; induction ps with
    | nil => rfl
    | cons kv ps ih => simp [encodeAnyPairs, flatAny, ih]
  rw [encodeAny, sortByKey_sorted (by rw [hm, List.pairwise_map]; exact anySortedB_sound ps hs), hf]

/-- A `RawBytes` value that `confAnyB`, `conf` and `wconf` accept (one item and nothing behind it, decoded as
`unmarshalRaw` does) is not empty, so `encodeS` writes it as it is, and it is read in front of anything, by any
fuel that covers it. -/
theorem raw_accepted {d : Nat} {b : Bytes} {x : Item} (h : decode (2 * b.length + 1) d b = some (x, [])) :
    b.isEmpty = false ∧ ∀ g r, 2 * b.length ≤ g + 1 → decode g d (b ++ r) = some (x, r) := by
  refine ⟨?_, fun g r hg => decode_fuel _ _ _ _ _ (decode_append _ _ b r x [] h) g (by simpa using hg)⟩
  have := decode_len _ _ _ _ _ h
  cases b with
  | nil => cases this
  | cons _ _ => rfl

/-! ### round trip -/

theorem encodeAny_len_pos (a : AnyVal) : 1 ≤ (encodeAny a).length := by
  cases a with
  | int i => simp only [encodeAny]; split <;> exact encHead_len_pos _ _
  | bool b => cases b <;> simp [encodeAny]
  | null => simp [encodeAny]
  | _ => simp only [encodeAny, encHead_eq, List.cons_append, List.length_cons]; omega

/-- `encodeAny (.int i)` is the integer encoding of every typed target too (`decodeS_int`) -/
theorem decodeAny_int (i : Int) (r : Bytes) (f d : Nat) (hi : -9223372036854775808 ≤ i ∧ i ≤ 9223372036854775807) :
    decodeAny (f + 1) d (encodeAny (.int i) ++ r) = some (.int i, r) := by
  simp only [encodeAny]
  split
  · simp only [decodeAny, decHead_encHead (mt := 0) (n := i.toNat) (r := r) (by decide) (by omega)]
    -- Here and below: with the decoder unfolded on the head it reads, `simp` evaluates the branch taken and leaves the
    -- decoder's guard as a side goal (the int64 range here, `n < maxLen` or `1 ≤ d` for strings and containers);
    -- `omega` proves it from what `confAnyB` gave.
    simp; omega
  · simp only [decodeAny, decHead_encHead (mt := 1) (n := (-1 - i).toNat) (r := r) (by decide) (by omega), negLimit]
    simp; omega

/-- the statements proved together by induction on the decoder's fuel -/
structure AnyRoundTrip (f : Nat) : Prop where
  val : ∀ (a : AnyVal) (r : Bytes) (d : Nat), confAnyB d a = true → 2 * (encodeAny a).length ≤ f →
    decodeAny f d (encodeAny a ++ r) = some (a, r)
  list : ∀ (xs : List AnyVal) (r : Bytes) (d : Nat), confAnyListB d xs = true → 2 * (encodeAnyList xs).length + 1 ≤ f →
    decodeAnys f d xs.length (encodeAnyList xs ++ r) = some (xs, r)
  pairs : ∀ (ps : List (AnyVal × AnyVal)) (r : Bytes) (d : Nat) (acc : List (AnyVal × AnyVal)), confAnyPairsB d ps = true →
    2 * (flatAny ps).length + 1 ≤ f → (acc ++ ps).Pairwise (fun a b => a.1.keyEq b.1 = false) →
    decodeAnyPairs f d ps.length acc (flatAny ps ++ r) = some (acc ++ ps, r)

theorem anyRoundTrip_step {f : Nat} (ih : AnyRoundTrip f) : AnyRoundTrip (f + 1) where
  val := by
    intro a r d hc hf
    match a with
    | .int i => exact decodeAny_int i r f d (by simpa [confAnyB] using hc)
    | .bytes b =>
      simp only [confAnyB, decide_eq_true_eq] at hc
      simp only [encodeAny, List.append_assoc, decodeAny, decHead_encHead (mt := 2) (n := b.length) (r := b ++ r)
        (by decide) (lt_of_lt_maxLen hc)]
      simp; omega
    | .text b =>
      simp only [confAnyB, decide_eq_true_eq] at hc
      simp only [encodeAny, List.append_assoc, decodeAny, decHead_encHead (mt := 3) (n := b.length) (r := b ++ r)
        (by decide) (lt_of_lt_maxLen hc)]
      simp; omega
    | .arr xs =>
      simp only [confAnyB, Bool.and_eq_true, decide_eq_true_eq] at hc
      obtain ⟨⟨hlen, hd⟩, hxs⟩ := hc
      simp only [encodeAny, List.length_append] at hf
      have d1 := ih.list xs r (d - 1) hxs (by have := encHead_len_pos 4 xs.length; omega)
      simp only [encodeAny, List.append_assoc, decodeAny, d1, decHead_encHead (mt := 4) (n := xs.length)
        (r := encodeAnyList xs ++ r) (by decide) (lt_of_lt_maxLen hlen)]
      simp; omega
    | .map ps =>
      simp only [confAnyB, Bool.and_eq_true, decide_eq_true_eq] at hc
      obtain ⟨⟨⟨hlen, hd⟩, hps⟩, hsorted⟩ := hc
      rw [encodeAny_map_sorted ps hsorted] at hf ⊢
      simp only [List.length_append] at hf
      have d1 := ih.pairs ps r (d - 1) [] hps (by have := encHead_len_pos 5 ps.length; omega)
        (distinct_of_sorted (fun a b h => congrArg encodeAny (anyKeyEq_eq _ _ h)) (anySortedB_sound ps hsorted))
      simp only [List.append_assoc, decodeAny, d1, decHead_encHead (mt := 5) (n := ps.length)
        (r := flatAny ps ++ r) (by decide) (by simp only [maxLen] at hlen; omega)]
      simp; omega
    | .tagRaw t raw =>
      simp only [confAnyB, Bool.and_eq_true, decide_eq_true_eq] at hc
      simp only [encodeAny, List.length_append] at hf
      cases hdr : decode (2 * raw.length + 1) (d - 1) raw with
      | none => simp [hdr] at hc
      | some q =>
        obtain ⟨x, _ | _⟩ := q <;> simp only [hdr] at hc
        · simp only [encodeAny, List.append_assoc, decodeAny, (raw_accepted hdr).2 f r (by omega),
            decHead_encHead (mt := 6) (n := t) (r := raw ++ r) (by decide) hc.1.1]
          simp; omega
        · simp at hc
    | .bool b => cases b <;> simp [encodeAny, decodeAny, decHead]
    | .null => simp [encodeAny, decodeAny, decHead]
  list := by
    intro xs r d hc hf
    match xs with
    | [] => simp [decodeAnys, encodeAnyList]
    | x :: xs =>
      simp only [confAnyListB, Bool.and_eq_true] at hc
      simp only [encodeAnyList, List.length_append] at hf
      have := encodeAny_len_pos x
      have d1 := ih.val x (encodeAnyList xs ++ r) d hc.1 (by omega)
      have d2 := ih.list xs r d hc.2 (by omega)
      simp only [encodeAnyList, List.length_cons, decodeAnys, List.append_assoc, d1, d2]
  pairs := by
    intro ps r d acc hc hf hk
    match ps with
    | [] => simp [decodeAnyPairs, flatAny]
    | (k, v) :: ps =>
      simp only [confAnyPairsB, Bool.and_eq_true] at hc
      obtain ⟨⟨⟨hcmp, hck⟩, hcv⟩, hcps⟩ := hc
      simp only [flatAny, List.length_append] at hf
      have := encodeAny_len_pos k
      have d1 := ih.val k (encodeAny v ++ (flatAny ps ++ r)) d hck (by omega)
      have d2 := ih.val v (flatAny ps ++ r) d hcv (by omega)
      have d3 := ih.pairs ps r d (acc ++ [(k, v)]) hcps (by omega) (by simpa using hk)
      simp only [flatAny, List.length_cons, decodeAnyPairs, List.append_assoc, d1, d2, hcmp, mapSet_fresh hk, d3]
      simp

theorem anyRoundTrip : ∀ f, AnyRoundTrip f
  | 0 => ⟨fun a _ _ _ hf => by have := encodeAny_len_pos a; omega, fun _ _ _ _ hf => by omega, fun _ _ _ _ _ hf => by omega⟩
  | f+1 => anyRoundTrip_step (anyRoundTrip f)

/-- **decode ∘ encode = id for `interface{}` values** -/
theorem decodeAny_encodeAny (a : AnyVal) (r : Bytes) (d f : Nat) (hc : confAnyB d a = true)
    (hf : 2 * (encodeAny a).length ≤ f) : decodeAny f d (encodeAny a ++ r) = some (a, r) :=
  (anyRoundTrip f).val a r d hc hf

theorem encodeAny_wfl {d : Nat} {a : AnyVal} (hc : confAnyB d a = true) (r : Bytes) : WFL d 1 (encodeAny a ++ r) r :=
  decodeAny_wfl _ _ _ _ _ (decodeAny_encodeAny a r d _ hc (Nat.le_refl _))

/-! ### `[]any` read element by element, and the devmod modules chunk -/

/-- a `[]any` read element by element is `decodeAnys`; `decodeS … .any` only hands on to `decodeAny`, which costs
it one unit of fuel: hence `f + 1` -/
theorem decodeElems_any_eq (ok : CertOracle) : ∀ (f d n : Nat) (b : Bytes),
    decodeElems ok (f + 1) d .any n b = (decodeAnys f d n b).map fun p => (p.1.map Val.any, p.2)
  | f, d, 0, b => by simp [decodeElems, decodeAnys]
  | 0, d, n+1, b => by simp [decodeElems, decodeS, decodeAnys]
  | f+1, d, n+1, b => by
    simp only [decodeElems, decodeS, decodeAnys]
    cases decodeAny f d b with
    | none => rfl
    | some q =>
      simp only [decodeElems_any_eq ok f d n q.2]
      cases decodeAnys f d n q.2 <;> rfl

theorem decodeElems_any (ok : CertOracle) (xs : List AnyVal) (r : Bytes) (d f : Nat) (hc : confAnyListB d xs = true)
    (hf : 2 * (encodeAnyList xs).length + 2 ≤ f) :
    decodeElems ok f d .any xs.length (encodeAnyList xs ++ r) = some (xs.map Val.any, r) := by
  obtain ⟨f, rfl⟩ : ∃ f', f = f' + 1 := ⟨f - 1, by omega⟩
  rw [decodeElems_any_eq, (anyRoundTrip f).list xs r d hc (by omega)]; rfl

theorem decodeS_slice_any (ok : CertOracle) (xs : List AnyVal) (r : Bytes) (d f : Nat) (hc : confAnyB d (.arr xs) = true)
    (hf : 2 * (encodeAny (.arr xs)).length + 1 ≤ f) :
    decodeS ok f d (.slice .any) (encodeAny (.arr xs) ++ r) = some (.list (xs.map .any), r) := by
  simp only [confAnyB, Bool.and_eq_true, decide_eq_true_eq] at hc
  simp only [encodeAny, List.length_append] at hf
  have := encHead_len_pos 4 xs.length
  obtain ⟨f, rfl⟩ : ∃ f', f = f' + 1 := ⟨f - 1, by omega⟩
  simp only [encodeAny, List.append_assoc, decodeS, decodeElems_any ok xs r (d - 1) f hc.2 (by omega),
    decHead_encHead (mt := 4) (n := xs.length) (r := encodeAnyList xs ++ r) (by decide) (lt_of_lt_maxLen hc.1.1)]
  simp; omega

theorem chunk_texts_enc : ∀ (ms : List Val), ms.all chunkIsText = true →
    encodeAnyList (ms.map chunkAny) = (ms.map chunkTextEnc).flatten
  | [], _ => by simp [encodeAnyList]
  | m :: ms, h => by
    simp only [List.all_cons, Bool.and_eq_true] at h
    obtain ⟨h1, h2⟩ := h
    cases m <;> simp [chunkIsText] at h1
    simp [encodeAnyList, chunkAny, encodeAny, chunkTextEnc, chunk_texts_enc ms h2]

theorem chunk_texts_back : ∀ (ms : List Val), ms.all chunkIsText = true →
    ((ms.map chunkAny).map Val.any).all chunkIsAnyText = true ∧
    ((ms.map chunkAny).map Val.any).map chunkFromAny = ms
  | [], _ => by simp
  | m :: ms, h => by
    simp only [List.all_cons, Bool.and_eq_true] at h
    obtain ⟨h1, h2⟩ := h
    cases m <;> simp [chunkIsText] at h1
    have := chunk_texts_back ms h2
    simp only [List.map_cons, List.all_cons, chunkAny, chunkIsAnyText, chunkFromAny, this.1, this.2]
    simp

/-- a modules chunk is written as the `[]any` array `chunkArr` -/
theorem chunk_bytes (a b : Int) (ms : List Val) (h : ms.all chunkIsText = true) :
    encHead 4 (2 + ms.length) ++ encodeAny (.int a) ++ encodeAny (.int b) ++ (ms.map chunkTextEnc).flatten =
      encodeAny (chunkArr a b ms) := by
  simp only [chunkArr, encodeAny, encodeAnyList, List.length_cons, List.length_map, chunk_texts_enc ms h,
    List.append_assoc, show 2 + ms.length = ms.length + 1 + 1 by omega]

end Fdo.Cbor

