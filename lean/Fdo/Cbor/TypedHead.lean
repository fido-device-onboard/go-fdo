import Fdo.Cbor.Typed
import Fdo.Cbor.Proofs
/-
What the typed decoder's head-reading helpers and leaf targets do on a head written by `encHead`.
-/
namespace Fdo.Cbor
open Fdo

/-- null/undefined is decided by the first byte alone -/
theorem isNullHead_cons (x : UInt8) (t : Bytes) :
    isNullHead (x :: t) = if x.toNat = 246 ∨ x.toNat = 247 then some t else none := by
  simp only [isNullHead, decHead]
  by_cases h24 : x.toNat % 32 < 24
  · rw [if_pos h24]
    by_cases hn : x.toNat = 246 ∨ x.toNat = 247
    · rw [if_pos hn]; exact if_pos (by omega)
    · rw [if_neg hn]; exact if_neg (by omega)
  · rw [if_neg h24, if_neg (show ¬ (x.toNat = 246 ∨ x.toNat = 247) by omega)]
    by_cases h28 : x.toNat % 32 ≥ 28
    · rw [if_pos h28]
    · rw [if_neg h28]
      by_cases hl : t.length < argWidth (x.toNat % 32)
      · rw [if_pos hl]
      · rw [if_neg hl]; exact if_neg (by omega)

theorem isNullHead_encHead {mt : Nat} (n : Nat) (r : Bytes) (hmt : mt < 7) : isNullHead (encHead mt n ++ r) = none := by
  have := headAi_lt n
  rw [encHead_eq, List.cons_append, isNullHead_cons, UInt8.toNat_ofNat_of_lt' (show mt * 32 + headAi n < 256 by omega),
    if_neg (by omega)]

theorem unwrapBytes_encHead {n : Nat} (r : Bytes) (hn : n < 18446744073709551616) :
    unwrapBytes (encHead 2 n ++ r) = some (some (n, r)) := by
  have := headAi_lt n
  simp [unwrapBytes, decHead_encHead (mt := 2) (r := r) (by decide) hn]
  omega

theorem int64_of_bits {bits : Nat} {i : Int} (hb : 1 ≤ bits ∧ bits ≤ 64)
    (hi : -(2 ^ (bits - 1) : Int) ≤ i ∧ i < (2 ^ (bits - 1) : Int)) :
    -9223372036854775808 ≤ i ∧ i ≤ 9223372036854775807 := by
  have : (2 : Int) ^ (bits - 1) ≤ 2 ^ 63 := by
    exact_mod_cast Nat.pow_le_pow_right (by decide : 1 ≤ 2) (show bits - 1 ≤ 63 by omega)
  omega

/-- `encodeAny (.int i)` is how `encodeS` writes the integer of every typed target as well (`.int`, timestamps, the
modules chunk; `Typed.lean` spells the same `if` out each time), hence the `interface{}` encoder in this lemma. -/
theorem decodeS_int (ok : CertOracle) {bits : Nat} {i : Int} (r : Bytes) (f d : Nat) (hb : 1 ≤ bits ∧ bits ≤ 64)
    (hi : -(2 ^ (bits - 1) : Int) ≤ i ∧ i < (2 ^ (bits - 1) : Int)) :
    decodeS ok (f + 1) d (.int bits) (encodeAny (.int i) ++ r) = some (.int i, r) := by
  have := int64_of_bits hb hi
  have hc : ∀ n : Nat, (n : Int) < 2 ^ (bits - 1) → n < 2 ^ (bits - 1) := fun n h => by exact_mod_cast h
  simp only [encodeAny]
  split
  · simp only [decodeS, decHead_encHead (mt := 0) (n := i.toNat) (r := r) (by decide) (by omega)]
    -- Here and below: with the decoder unfolded on the head it reads, `simp` evaluates the branch taken and leaves the
    -- decoder's guard as a side goal (`max i 0 = i` here, `b.length < maxLen` in `decodeS_bytes`,
    -- `28 ≤ headAi n → headAi n = n` in `decodeS_tagAny`); `omega` proves it from the bounds in the context.
    simp [hc i.toNat (by omega)]; omega
  · simp only [decodeS, decHead_encHead (mt := 1) (n := (-1 - i).toNat) (r := r) (by decide) (by omega)]
    simp [hc (-1 - i).toNat (by omega)]; omega

theorem decodeS_bytes (ok : CertOracle) {b : Bytes} (r : Bytes) (f d : Nat) (hb : b.length < maxLen) :
    decodeS ok (f + 1) d .bytes (encHead 2 b.length ++ b ++ r) = some (.bytes b, r) := by
  simp only [List.append_assoc, decodeS,
    decHead_encHead (mt := 2) (n := b.length) (r := b ++ r) (by decide) (lt_of_lt_maxLen hb)]
  simp; omega

theorem decodeS_text (ok : CertOracle) {b : Bytes} (r : Bytes) (f d : Nat) (hb : b.length < maxLen) :
    decodeS ok (f + 1) d .text (encHead 3 b.length ++ b ++ r) = some (.text b, r) := by
  simp only [List.append_assoc, decodeS,
    decHead_encHead (mt := 3) (n := b.length) (r := b ++ r) (by decide) (lt_of_lt_maxLen hb)]
  simp; omega

/-- `Tag[T]`: the content is decoded with a fresh nesting budget -/
theorem decodeS_tagAny (ok : CertOracle) {e : Schema} {n f : Nat} {c r : Bytes} {x : Val} (d : Nat)
    (hn : n < 18446744073709551616) (h : decodeS ok f maxDepth e (c ++ r) = some (x, r)) :
    decodeS ok (f + 1) d (.tagAny e) (encHead 6 n ++ c ++ r) = some (.tag n x, r) := by
  have := headAi_lt n
  simp only [List.append_assoc, decodeS, decHead_encHead (mt := 6) (n := n) (r := c ++ r) (by decide) hn, h]
  simp; omega

/-- `Bstr[T]` and `ByteWrap[T]` (one decoder, written out twice in `decodeS`): the content of the byte string is
decoded by a `Decoder` of its own -/
theorem decodeS_bstr (ok : CertOracle) {s e : Schema} {f : Nat} {c : Bytes} {x : Val} (d : Nat) (r : Bytes)
    (hs : s = .bstr e ∨ s = .wrap e) (hc : c.length < 18446744073709551616)
    (h : decodeS ok f maxDepth e c = some (x, [])) :
    decodeS ok (f + 1) d s (encHead 2 c.length ++ c ++ r) = some (x, r) := by
  rcases hs with rfl | rfl <;> simp [decodeS, unwrapBytes_encHead (c ++ r) hc, h]

end Fdo.Cbor
