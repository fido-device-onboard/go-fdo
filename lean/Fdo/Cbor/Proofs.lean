import Fdo.Cbor.Head
/-
The structural decoder. `decode_succ_eq_some` says what one step of `decode` does once the head is
read, so that no proof walks the major-type cascade again. `decode_local` is the one induction over
the decoder's recursion for what it consumes (WellFormed.lean has a second of the same shape, `decode_wfl`, for the
grammar); that the decoder ignores what follows an item, consumes exactly the item,
does not depend on its fuel, and builds nothing that was not paid for by bytes read (`footprint`) are
read off it. `decode_encode` is the round trip.
-/
namespace Fdo.Cbor
open Fdo

mutual
/-- Nodes plus string bytes of a decoded value: proportional to the memory a decoder that allocates
as data arrives needs for it. A head that merely claims a length contributes nothing until the items or bytes it
announces have been read (`decode_footprint`). -/
def Item.footprint : Item → Nat
  | .bstr b => 1 + b.length
  | .tstr b => 1 + b.length
  | .arr xs => 1 + xs.footprint
  | .map ps => 1 + ps.footprint
  | .tag _ x => 1 + x.footprint
  | _ => 1
def Items.footprint : Items → Nat
  | .nil => 0
  | .cons x xs => x.footprint + xs.footprint
def Pairs.footprint : Pairs → Nat
  | .nil => 0
  | .cons k v ps => k.footprint + v.footprint + ps.footprint
end

theorem Item.footprint_pos (x : Item) : 1 ≤ x.footprint := by
  cases x <;> simp [Item.footprint] <;> omega

theorem Items.length_le_footprint (xs : Items) : xs.length ≤ xs.footprint := by
  match xs with
  | .nil => simp [Items.length]
  | .cons x xs =>
    have := Items.length_le_footprint xs
    have := x.footprint_pos
    simp [Items.length, Items.footprint]; omega

theorem Pairs.length_le_footprint (ps : Pairs) : 2 * ps.length ≤ ps.footprint := by
  match ps with
  | .nil => simp [Pairs.length]
  | .cons k v ps =>
    have := Pairs.length_le_footprint ps
    have := k.footprint_pos
    have := v.footprint_pos
    simp [Pairs.length, Pairs.footprint]; omega

/-- What `decode (f + 1) d` makes of an input whose head is `(mt, ai, arg, r)`. -/
inductive DecStep (f : Nat) : Nat → Nat × Nat × Nat × Bytes → Item → Bytes → Prop
  | uint {d ai arg r} : DecStep f d (0, ai, arg, r) (.uint arg) r
  | nint {d ai arg r} : DecStep f d (1, ai, arg, r) (.nint arg) r
  | bstr {d ai c r} : c.length < maxLen → DecStep f d (2, ai, c.length, c ++ r) (.bstr c) r
  | tstr {d ai c r} : c.length < maxLen → DecStep f d (3, ai, c.length, c ++ r) (.tstr c) r
  | arr {d ai arg r xs r'} : arg < maxLen → decodeItems f d arg r = some (xs, r') →
      DecStep f (d + 1) (4, ai, arg, r) (.arr xs) r'
  | map {d ai arg r ps r'} : 2 * arg < maxLen → decodePairs f d arg r = some (ps, r') →
      DecStep f (d + 1) (5, ai, arg, r) (.map ps) r'
  | tag {d ai arg r x r'} : decode f d r = some (x, r') → DecStep f (d + 1) (6, ai, arg, r) (.tag arg x) r'
  | simple {d ai arg r} : ai < 24 → DecStep f d (7, ai, arg, r) (.simple ai) r
  | m7 {d ai arg r} : 24 ≤ ai → DecStep f d (7, ai, arg, r) (.m7 ai arg) r

/-- `DecStep.bstr`/`.tstr` speak of content `c` followed by `r'`; `decode` cuts `c` off with `take`/`drop`. -/
theorem exists_append_of_le_length {arg : Nat} {r : Bytes} (h : arg ≤ r.length) :
    ∃ c r', r = c ++ r' ∧ c.length = arg ∧ r.take arg = c ∧ r.drop arg = r' :=
  ⟨_, _, (List.take_append_drop arg r).symm, by rw [List.length_take]; omega, rfl, rfl⟩

theorem decode_succ_eq_some {f d : Nat} {b : Bytes} {v : Item} {r' : Bytes} :
    decode (f + 1) d b = some (v, r') ↔ ∃ q, decHead b = some q ∧ DecStep f d q v r' := by
  constructor
  · intro h
    -- `fun_cases` forgets that the fuel is `f + 1` unless an equation says so
    generalize hg : f + 1 = g at h
    revert hg h
    -- of the leaves of `decode`, those that return a value survive `cases h`: one for each constructor of `DecStep`.
    -- `next` names the last hypotheses of a leaf: for a string its guard `hl`, the `mt` tests passed, and `hd` (the head);
    -- for a container the guard `hl`, `hd`, and `hi` (the recursive call), the tests coming before them
    fun_cases decode g d b <;> intro hg h <;> cases hg <;> cases h
    next hd => exact ⟨_, hd, .uint⟩
    next _ hd => exact ⟨_, hd, .nint⟩
    next hl _ _ hd =>
      obtain ⟨c, r', rfl, rfl, e1, e2⟩ := exists_append_of_le_length (Nat.le_of_not_lt (not_or.mp hl).2)
      rw [e1, e2]; exact ⟨_, hd, .bstr (Nat.lt_of_not_le (not_or.mp hl).1)⟩
    next hl _ _ _ hd =>
      obtain ⟨c, r', rfl, rfl, e1, e2⟩ := exists_append_of_le_length (Nat.le_of_not_lt (not_or.mp hl).2)
      rw [e1, e2]; exact ⟨_, hd, .tstr (Nat.lt_of_not_le (not_or.mp hl).1)⟩
    next hl hd hi =>
      obtain ⟨d, rfl⟩ : ∃ d', d = d' + 1 := ⟨d - 1, by omega⟩
      exact ⟨_, hd, .arr (Nat.lt_of_not_le (not_or.mp hl).1) hi⟩
    next hl hd hi =>
      obtain ⟨d, rfl⟩ : ∃ d', d = d' + 1 := ⟨d - 1, by omega⟩
      exact ⟨_, hd, .map (Nat.lt_of_not_le (not_or.mp (not_or.mp hl).2).1) hi⟩
    next hl hd hi =>
      obtain ⟨d, rfl⟩ : ∃ d', d = d' + 1 := ⟨d - 1, by omega⟩
      exact ⟨_, hd, .tag hi⟩
    -- the two leaves behind all seven `mt = k` tests
    all_goals
      rename_i mt _ _ _ _ _ _ _ _ _ h24 hd
      obtain rfl : mt = 7 := by have := (decHead_bounds hd).1; omega
    · exact ⟨_, hd, .simple h24⟩
    · exact ⟨_, hd, .m7 (Nat.le_of_not_lt h24)⟩
  · rintro ⟨q, hd, st⟩
    cases st with
    | uint | nint => simp [decode, hd]
    | bstr hl | tstr hl => simp [decode, hd]; omega
    | arr hl hi | map hl hi => simp [decode, hd, hi]; omega
    | tag hi => simp [decode, hd, hi]
    | simple h => simp [decode, hd, h]
    | m7 h => simp [decode, hd]; omega

theorem decodeItems_zero (g d : Nat) (b : Bytes) : decodeItems g d 0 b = some (.nil, b) := by
  cases g <;> simp [decodeItems]

theorem decodePairs_zero (g d : Nat) (b : Bytes) : decodePairs g d 0 b = some (.nil, b) := by
  cases g <;> simp [decodePairs]

theorem decodeItems_succ_some {f d n : Nat} {b : Bytes} {ys : Items} {r : Bytes}
    (h : decodeItems (f + 1) d (n + 1) b = some (ys, r)) :
    ∃ x r1 xs, decode f d b = some (x, r1) ∧ decodeItems f d n r1 = some (xs, r) ∧ ys = .cons x xs := by
  rw [decodeItems] at h
  split at h
  · cases h
  · split at h
    · cases h
    · cases h; exact ⟨_, _, _, ‹_›, ‹_›, rfl⟩

theorem decodePairs_succ_some {f d n : Nat} {b : Bytes} {qs : Pairs} {r : Bytes}
    (h : decodePairs (f + 1) d (n + 1) b = some (qs, r)) :
    ∃ k r1 v r2 ps, decode f d b = some (k, r1) ∧ decode f d r1 = some (v, r2) ∧
      decodePairs f d n r2 = some (ps, r) ∧ qs = .cons k v ps := by
  rw [decodePairs] at h
  split at h
  · cases h
  · split at h
    · cases h
    · split at h
      · cases h
      · cases h; exact ⟨_, _, _, _, _, ‹_›, ‹_›, ‹_›, rfl⟩

/-- `dec`, run with fuel `f` on `b`, gave `v` and left `r` *locally*: it consumed a prefix `p` of `b`
at least `fp v` long, and `p` decides the outcome: followed by anything, `dec` gives `v` again and hands
back what followed, under the same or more fuel and also under any fuel `g` with `2 * p.length ≤ g + k`.

Why twice the length: the model spends one unit of fuel on every item and one on every list cell an
item sits in (`decodeItems`, `decodePairs`), and an item is at least one byte, so `c` bytes hold at most
`c` items in at most `c` cells. `k` is the slack of the outermost call: a decoder of one item (`decode`,
`k = 1`) sits in no cell and gets by on `2c - 1`; a list decoder (`k = 0`) needs the full `2c`. -/
def Local {α} (dec : Nat → Bytes → Option (α × Bytes)) (fp : α → Nat) (k f : Nat) (b : Bytes) (v : α) (r : Bytes) :
    Prop :=
  ∃ p, b = p ++ r ∧ fp v ≤ p.length ∧ ∀ g t, f ≤ g ∨ 2 * p.length ≤ g + k → dec g (p ++ t) = some (v, t)

namespace Local
variable {α} {dec : Nat → Bytes → Option (α × Bytes)} {fp : α → Nat} {k f : Nat} {b : Bytes} {v : α} {r : Bytes}

theorem append (h : Local dec fp k f b v r) (t : Bytes) : dec f (b ++ t) = some (v, r ++ t) := by
  obtain ⟨p, rfl, _, hp⟩ := h
  rw [List.append_assoc]; exact hp f _ (.inl (Nat.le_refl f))

theorem split (h : Local dec fp k f b v r) : ∃ p, b = p ++ r ∧ fp v ≤ p.length ∧ dec f p = some (v, []) := by
  obtain ⟨p, rfl, hl, hp⟩ := h
  exact ⟨p, rfl, hl, by simpa using hp f [] (.inl (Nat.le_refl f))⟩

theorem fp_le (h : Local dec fp k f b v r) : fp v + r.length ≤ b.length := by
  obtain ⟨p, rfl, hl, _⟩ := h
  simpa using hl

theorem mono (h : Local dec fp k f b v r) {g : Nat} (hg : f ≤ g) : dec g b = some (v, r) := by
  obtain ⟨p, rfl, _, hp⟩ := h
  exact hp g r (.inl hg)

theorem fuel (h : Local dec fp k f b v r) (g : Nat) (hg : 2 * (b.length - r.length) ≤ g + k) : dec g b = some (v, r) := by
  obtain ⟨p, rfl, _, hp⟩ := h
  exact hp g r (.inr (by simpa using hg))

end Local

/-- `Local` for one step of `decode`: if what follows the head splits as `q ++ r` and `q`, followed by
anything, makes `DecStep` give `v`, then head and `q` are the prefix consumed. -/
theorem decode_of_step {b : Bytes} {mt ai arg : Nat} {r0 : Bytes} (hd : decHead b = some (mt, ai, arg, r0))
    {f d : Nat} {q r : Bytes} {v : Item} (hq : r0 = q ++ r) (hfp : v.footprint ≤ q.length + 1)
    (hs : ∀ g t, f ≤ g ∨ 2 * q.length ≤ g → DecStep g d (mt, ai, arg, q ++ t) v t) :
    Local (decode · d) Item.footprint 1 (f + 1) b v r := by
  obtain ⟨hp, rfl, hl, hh⟩ := decHead_split _ hd
  refine ⟨hp ++ q, by rw [hq, List.append_assoc], by rw [List.length_append]; omega, fun g t hg => ?_⟩
  rw [List.length_append] at hg
  obtain ⟨g, rfl⟩ : ∃ g', g = g' + 1 := ⟨g - 1, by omega⟩
  rw [List.append_assoc]
  -- the head is at least one byte (`hl`), so twice `q` fits the fuel that is left after this step
  exact decode_succ_eq_some.2 ⟨_, hh _, hs g t (by omega)⟩

mutual
theorem decode_local (f d : Nat) (b : Bytes) (v : Item) (r : Bytes) (h : decode f d b = some (v, r)) :
    Local (decode · d) Item.footprint 1 f b v r := by
  match f with
  | 0 => simp [decode] at h
  | f+1 =>
    obtain ⟨⟨mt, ai, arg, r0⟩, hd, st⟩ := decode_succ_eq_some.1 h
    cases st with
    | uint => exact decode_of_step hd (q := []) rfl (Nat.le_refl 1) fun _ _ _ => .uint
    | nint => exact decode_of_step hd (q := []) rfl (Nat.le_refl 1) fun _ _ _ => .nint
    | simple h1 => exact decode_of_step hd (q := []) rfl (Nat.le_refl 1) fun _ _ _ => .simple h1
    | m7 h1 => exact decode_of_step hd (q := []) rfl (Nat.le_refl 1) fun _ _ _ => .m7 h1
    | bstr h1 => exact decode_of_step hd rfl (Nat.le_of_eq (Nat.add_comm ..)) fun _ _ _ => .bstr h1
    | tstr h1 => exact decode_of_step hd rfl (Nat.le_of_eq (Nat.add_comm ..)) fun _ _ _ => .tstr h1
    | arr h1 hi =>
      obtain ⟨⟨q, hq, hfp, ih⟩, _⟩ := decodeItems_local f _ _ _ _ _ hi
      exact decode_of_step hd hq (by rw [Item.footprint]; omega) fun g t hg => .arr h1 (ih g t hg)
    | map h1 hi =>
      obtain ⟨⟨q, hq, hfp, ih⟩, _⟩ := decodePairs_local f _ _ _ _ _ hi
      exact decode_of_step hd hq (by rw [Item.footprint]; omega) fun g t hg => .map h1 (ih g t hg)
    | tag hi =>
      obtain ⟨q, hq, hfp, ih⟩ := decode_local f _ _ _ _ hi
      exact decode_of_step hd hq (by rw [Item.footprint]; omega) fun g t hg => .tag (ih g t (by omega))
termination_by f
theorem decodeItems_local (f d n : Nat) (b : Bytes) (xs : Items) (r : Bytes) (h : decodeItems f d n b = some (xs, r)) :
    Local (decodeItems · d n) Items.footprint 0 f b xs r ∧ xs.length = n := by
  match f, n with
  | f, 0 =>
    rw [decodeItems_zero] at h; simp at h; obtain ⟨rfl, rfl⟩ := h
    exact ⟨⟨[], rfl, Nat.le_refl 0, fun g t _ => decodeItems_zero g d _⟩, rfl⟩
  | 0, n+1 => simp [decodeItems] at h
  | f+1, n+1 =>
    obtain ⟨x, r1, ys, h1, h2, rfl⟩ := decodeItems_succ_some h
    obtain ⟨p1, rfl, f1, i1⟩ := decode_local f d b x r1 h1
    obtain ⟨⟨p2, rfl, f2, i2⟩, rfl⟩ := decodeItems_local f d n r1 ys r h2
    dsimp only at i1 i2
    refine ⟨⟨p1 ++ p2, (List.append_assoc ..).symm, by rw [Items.footprint, List.length_append]; omega,
      fun g t hg => ?_⟩, rfl⟩
    -- the first item is at least one byte (`f1`), so twice the rest fits the fuel that is left for it
    have := x.footprint_pos
    rw [List.length_append] at hg
    obtain ⟨g, rfl⟩ : ∃ g', g = g' + 1 := ⟨g - 1, by omega⟩
    show decodeItems (g + 1) d (ys.length + 1) _ = _
    rw [decodeItems, List.append_assoc, i1 g _ (by omega)]
    simp only [i2 g t (by omega)]
termination_by f
theorem decodePairs_local (f d n : Nat) (b : Bytes) (ps : Pairs) (r : Bytes) (h : decodePairs f d n b = some (ps, r)) :
    Local (decodePairs · d n) Pairs.footprint 0 f b ps r ∧ ps.length = n := by
  match f, n with
  | f, 0 =>
    rw [decodePairs_zero] at h; simp at h; obtain ⟨rfl, rfl⟩ := h
    exact ⟨⟨[], rfl, Nat.le_refl 0, fun g t _ => decodePairs_zero g d _⟩, rfl⟩
  | 0, n+1 => simp [decodePairs] at h
  | f+1, n+1 =>
    obtain ⟨k, r1, v, r2, qs, h1, h2, h3, rfl⟩ := decodePairs_succ_some h
    obtain ⟨p1, rfl, f1, i1⟩ := decode_local f d b k r1 h1
    obtain ⟨p2, rfl, f2, i2⟩ := decode_local f d r1 v r2 h2
    obtain ⟨⟨p3, rfl, f3, i3⟩, rfl⟩ := decodePairs_local f d n r2 qs r h3
    dsimp only at i1 i2 i3
    refine ⟨⟨p1 ++ (p2 ++ p3), by rw [List.append_assoc, List.append_assoc],
      by rw [Pairs.footprint, List.length_append, List.length_append]; omega, fun g t hg => ?_⟩, rfl⟩
    have := k.footprint_pos
    rw [List.length_append, List.length_append] at hg
    obtain ⟨g, rfl⟩ : ∃ g', g = g' + 1 := ⟨g - 1, by omega⟩
    show decodePairs (g + 1) d (qs.length + 1) _ = _
    rw [decodePairs, List.append_assoc, i1 g _ (by omega)]
    simp only [List.append_assoc, i2 g _ (by omega), i3 g t (by omega)]
termination_by f
end

theorem decode_append (f d : Nat) (b t : Bytes) (v : Item) (r : Bytes)
    (h : decode f d b = some (v, r)) : decode f d (b ++ t) = some (v, r ++ t) :=
  (decode_local f d b v r h).append t

theorem decodeItems_append (f d n : Nat) (b t : Bytes) (xs : Items) (r : Bytes)
    (h : decodeItems f d n b = some (xs, r)) : decodeItems f d n (b ++ t) = some (xs, r ++ t) :=
  (decodeItems_local f d n b xs r h).1.append t

theorem decodePairs_append (f d n : Nat) (b t : Bytes) (ps : Pairs) (r : Bytes)
    (h : decodePairs f d n b = some (ps, r)) : decodePairs f d n (b ++ t) = some (ps, r ++ t) :=
  (decodePairs_local f d n b ps r h).1.append t

theorem decode_split (f d : Nat) (b : Bytes) (v : Item) (r : Bytes)
    (h : decode f d b = some (v, r)) : ∃ p, b = p ++ r ∧ 1 ≤ p.length ∧ decode f d p = some (v, []) :=
  let ⟨p, e, hl, hp⟩ := (decode_local f d b v r h).split
  ⟨p, e, Nat.le_trans v.footprint_pos hl, hp⟩

theorem decode_footprint (f d : Nat) (b : Bytes) (v : Item) (r : Bytes) (h : decode f d b = some (v, r)) :
    v.footprint + r.length ≤ b.length :=
  (decode_local f d b v r h).fp_le

theorem decode_len (f d : Nat) (b : Bytes) (v : Item) (r : Bytes) (h : decode f d b = some (v, r)) :
    r.length < b.length := by
  have := decode_footprint f d b v r h
  have := v.footprint_pos
  omega

theorem decodeItems_footprint (f d n : Nat) (b : Bytes) (xs : Items) (r : Bytes)
    (h : decodeItems f d n b = some (xs, r)) : xs.footprint + r.length ≤ b.length :=
  (decodeItems_local f d n b xs r h).1.fp_le

theorem decodePairs_footprint (f d n : Nat) (b : Bytes) (ps : Pairs) (r : Bytes)
    (h : decodePairs f d n b = some (ps, r)) : ps.footprint + r.length ≤ b.length :=
  (decodePairs_local f d n b ps r h).1.fp_le

theorem decodeItems_length (f d n : Nat) (b : Bytes) (xs : Items) (r : Bytes)
    (h : decodeItems f d n b = some (xs, r)) : xs.length = n :=
  (decodeItems_local f d n b xs r h).2

theorem decodePairs_length (f d n : Nat) (b : Bytes) (ps : Pairs) (r : Bytes)
    (h : decodePairs f d n b = some (ps, r)) : ps.length = n :=
  (decodePairs_local f d n b ps r h).2

/-! ### fuel is an artefact of how the model recurses; it never decides an outcome -/

theorem decode_mono {f g d : Nat} {b : Bytes} {v : Item} {r : Bytes} (h : decode f d b = some (v, r)) (hg : f ≤ g) :
    decode g d b = some (v, r) :=
  (decode_local f d b v r h).mono hg

theorem decodeItems_mono {f g d n : Nat} {b : Bytes} {xs : Items} {r : Bytes} (h : decodeItems f d n b = some (xs, r))
    (hg : f ≤ g) : decodeItems g d n b = some (xs, r) :=
  (decodeItems_local f d n b xs r h).1.mono hg

theorem decodePairs_mono {f g d n : Nat} {b : Bytes} {ps : Pairs} {r : Bytes} (h : decodePairs f d n b = some (ps, r))
    (hg : f ≤ g) : decodePairs g d n b = some (ps, r) :=
  (decodePairs_local f d n b ps r h).1.mono hg

/-- A successful decode is reproduced by any fuel of at least twice the number of bytes it consumed
(minus one): fuel is an artefact of the recursion scheme, it never decides an outcome. -/
theorem decode_fuel (f d : Nat) (b : Bytes) (v : Item) (r : Bytes) (h : decode f d b = some (v, r)) :
    ∀ g, 2 * (b.length - r.length) ≤ g + 1 → decode g d b = some (v, r) :=
  (decode_local f d b v r h).fuel

theorem decodeItems_fuel (f d n : Nat) (b : Bytes) (xs : Items) (r : Bytes) (h : decodeItems f d n b = some (xs, r)) :
    ∀ g, 2 * (b.length - r.length) ≤ g → decodeItems g d n b = some (xs, r) :=
  (decodeItems_local f d n b xs r h).1.fuel

theorem decodePairs_fuel (f d n : Nat) (b : Bytes) (ps : Pairs) (r : Bytes) (h : decodePairs f d n b = some (ps, r)) :
    ∀ g, 2 * (b.length - r.length) ≤ g → decodePairs g d n b = some (ps, r) :=
  (decodePairs_local f d n b ps r h).1.fuel

/-- `decode1` (fuel 2·length + 1) finds whatever any amount of fuel finds: the fuel bound of the
driver and of the theorems is never the reason for an `error`. -/
theorem decode1_complete (f : Nat) (b : Bytes) (v : Item) (r : Bytes) (h : decode f maxDepth b = some (v, r)) :
    decode1 b = some (v, r) :=
  decode_fuel f maxDepth b v r h _ (by omega)

/-! ### round trip -/

theorem Item.size_pos (x : Item) : 0 < x.size := by
  cases x <;> simp [Item.size]

mutual
theorem decode_encode (x : Item) (hx : x.WF) (r : Bytes) (f d : Nat) (hf : x.size ≤ f) (hd : x.depth ≤ d) :
    decode f d (encode x ++ r) = some (x, r) := by
  match f, x with
  | 0, x => have := x.size_pos; omega
  | f+1, .uint n => exact decode_succ_eq_some.2 ⟨_, decHead_encHead (mt := 0) (by omega) hx, .uint⟩
  | f+1, .nint n => exact decode_succ_eq_some.2 ⟨_, decHead_encHead (mt := 1) (by omega) hx, .nint⟩
  | f+1, .bstr b =>
    have hx : b.length < maxLen := hx
    rw [encode, List.append_assoc]
    exact decode_succ_eq_some.2 ⟨_, decHead_encHead (mt := 2) (by omega) (lt_of_lt_maxLen hx), .bstr hx⟩
  | f+1, .tstr b =>
    have hx : b.length < maxLen := hx
    rw [encode, List.append_assoc]
    exact decode_succ_eq_some.2 ⟨_, decHead_encHead (mt := 3) (by omega) (lt_of_lt_maxLen hx), .tstr hx⟩
  | f+1, .arr xs =>
    obtain ⟨hl, hx⟩ : xs.length < maxLen ∧ xs.WF := hx
    simp only [Item.size, Item.depth] at hf hd
    obtain ⟨d, rfl⟩ : ∃ d', d = d' + 1 := ⟨d - 1, by omega⟩
    rw [encode, List.append_assoc]
    exact decode_succ_eq_some.2 ⟨_, decHead_encHead (mt := 4) (by omega) (lt_of_lt_maxLen hl),
      .arr hl (decodeItems_encode xs hx r f d (by omega) (by omega))⟩
  | f+1, .map ps =>
    obtain ⟨hl, hx⟩ : 2 * ps.length < maxLen ∧ ps.WF := hx
    simp only [Item.size, Item.depth] at hf hd
    obtain ⟨d, rfl⟩ : ∃ d', d = d' + 1 := ⟨d - 1, by omega⟩
    rw [encode, List.append_assoc]
    exact decode_succ_eq_some.2 ⟨_, decHead_encHead (mt := 5) (by omega) (lt_of_lt_maxLen (by omega)),
      .map hl (decodePairs_encode ps hx r f d (by omega) (by omega))⟩
  | f+1, .tag t x =>
    obtain ⟨hl, hx⟩ : t < 18446744073709551616 ∧ x.WF := hx
    simp only [Item.size, Item.depth] at hf hd
    obtain ⟨d, rfl⟩ : ∃ d', d = d' + 1 := ⟨d - 1, by omega⟩
    rw [encode, List.append_assoc]
    exact decode_succ_eq_some.2 ⟨_, decHead_encHead (mt := 6) (by omega) hl,
      .tag (decode_encode x hx r f d (by omega) (by omega))⟩
  | f+1, .simple v =>
    have hx : v < 24 := hx
    exact decode_succ_eq_some.2 ⟨_, decHead_small r (by omega) hx, .simple hx⟩
  | f+1, .m7 ai arg =>
    obtain ⟨h24, h28, ha⟩ : 24 ≤ ai ∧ ai < 28 ∧ arg < 256 ^ argWidth ai := hx
    exact decode_succ_eq_some.2 ⟨_, decHead_cons 7 ai arg r (by omega) h28 (by omega) (fun _ => ha), .m7 h24⟩
termination_by f
theorem decodeItems_encode (xs : Items) (hx : xs.WF) (r : Bytes) (f d : Nat) (hf : xs.size ≤ f) (hd : xs.depth ≤ d) :
    decodeItems f d xs.length (encodeItems xs ++ r) = some (xs, r) := by
  match f, xs with
  | f, .nil => exact decodeItems_zero f d _
  | 0, .cons x xs => simp [Items.size] at hf
  | f+1, .cons x xs =>
    obtain ⟨hx1, hx2⟩ : x.WF ∧ xs.WF := hx
    simp only [Items.size, Items.depth] at hf hd
    rw [Items.length, encodeItems, List.append_assoc, decodeItems,
      decode_encode x hx1 _ f d (by omega) (by omega)]
    simp only [decodeItems_encode xs hx2 r f d (by omega) (by omega)]
termination_by f
theorem decodePairs_encode (ps : Pairs) (hx : ps.WF) (r : Bytes) (f d : Nat) (hf : ps.size ≤ f) (hd : ps.depth ≤ d) :
    decodePairs f d ps.length (encodePairs ps ++ r) = some (ps, r) := by
  match f, ps with
  | f, .nil => exact decodePairs_zero f d _
  | 0, .cons k v ps => simp [Pairs.size] at hf
  | f+1, .cons k v ps =>
    obtain ⟨hx1, hx2, hx3⟩ : k.WF ∧ v.WF ∧ ps.WF := hx
    simp only [Pairs.size, Pairs.depth] at hf hd
    rw [Pairs.length, encodePairs, List.append_assoc, List.append_assoc, decodePairs,
      decode_encode k hx1 _ f d (by omega) (by omega)]
    simp only [decode_encode v hx2 _ f d (by omega) (by omega),
      decodePairs_encode ps hx3 r f d (by omega) (by omega)]
termination_by f
end

theorem decode1_encode (x : Item) (hx : x.WF) (hd : x.depth ≤ maxDepth) (rest : Bytes) :
    decode1 (encode x ++ rest) = some (x, rest) :=
  decode1_complete _ _ _ _ (decode_encode x hx rest x.size maxDepth (Nat.le_refl _) hd)

theorem unmarshalRaw_encode (x : Item) (hx : x.WF) (hd : x.depth ≤ maxDepth) : unmarshalRaw (encode x) = some x := by
  have := decode1_encode x hx hd []
  rw [List.append_nil] at this
  rw [unmarshalRaw, this]

theorem toList_ofList (xs : List Item) : (Items.ofList xs).toList = xs := by
  induction xs with
  | nil => rfl
  | cons x r ih => simp [Items.ofList, Items.toList, ih]

theorem length_ofList (xs : List Item) : (Items.ofList xs).length = xs.length := by
  induction xs with
  | nil => rfl
  | cons x r ih => simp [Items.ofList, Items.length, ih]

/-- Proof: decode both sides with fuel and depth enough for either. -/
theorem encode_prefix_free {x y : Item} (hx : x.WF) (hy : y.WF) {r s : Bytes} (h : encode x ++ r = encode y ++ s) :
    x = y ∧ r = s := by
  have h1 := decode_encode x hx r (max x.size y.size) (max x.depth y.depth) (Nat.le_max_left ..) (Nat.le_max_left ..)
  have h2 := decode_encode y hy s (max x.size y.size) (max x.depth y.depth) (Nat.le_max_right ..) (Nat.le_max_right ..)
  rw [h, h2] at h1
  simpa using h1.symm

theorem encode_injective {x y : Item} (hx : x.WF) (hy : y.WF) (h : encode x = encode y) : x = y :=
  (encode_prefix_free hx hy (r := []) (s := []) (by rw [h])).1

end Fdo.Cbor
