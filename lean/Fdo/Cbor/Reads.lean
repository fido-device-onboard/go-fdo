import Fdo.Cbor.TypedHead
import Fdo.Cbor.WellFormed
/-
One notion behind "exact consumption" of every decoder of the library: `Reads P dec`. A successful run of
`dec` on `b` leaving `r` (1) has consumed bytes of the shape `P b r` (for instance `WFN k`: `k` well-formed
items) and (2) splits `b` into the bytes read and `r`, such that the bytes read, followed by anything at
all, give the same value and leave exactly what followed. That a decoder ignores what follows the item,
that the consumed prefix alone decodes to the same value, that the rest is a suffix of the input and that
what was consumed is well formed are the four readings of this one statement (`Reads.append`, `.split`,
`.suf`, `.shape`).

The closure lemmas do not look at how a decoder is written (a lemma stated with `match` does not unify with
the `match` of a definition in another file). They ask how `dec` behaves relative to the decoder `d1` it
starts with: `dec` fails where `d1` fails, and once `d1` has read `p`, `fun r => dec (p ++ r)` is again a
reader. Both are discharged by rewriting with the hypothesis, and the second leaves `dec` unfolded one step
further, ready for the next closure lemma.
-/
namespace Fdo.Cbor
open Fdo

variable {α β : Type} {P Q R : Bytes → Bytes → Prop}

def Reads (P : Bytes → Bytes → Prop) (dec : Bytes → Option (α × Bytes)) : Prop :=
  ∀ b v r, dec b = some (v, r) → P b r ∧ ∃ p, b = p ++ r ∧ ∀ t, dec (p ++ t) = some (v, t)

/-- `r` is what remains of `b` after reading a prefix -/
def Suf (r b : Bytes) : Prop := ∃ p, b = p ++ r

theorem Suf.trans {a b c : Bytes} (h1 : Suf a b) (h2 : Suf b c) : Suf a c := by
  obtain ⟨p, rfl⟩ := h1; obtain ⟨q, rfl⟩ := h2; exact ⟨q ++ p, by simp⟩
theorem Suf.drop (n : Nat) (b : Bytes) : Suf (b.drop n) b := ⟨b.take n, (List.take_append_drop n b).symm⟩
theorem Suf.cons (x : UInt8) (b : Bytes) : Suf b (x :: b) := ⟨[x], rfl⟩

section
variable {dec : Bytes → Option (α × Bytes)} {b r : Bytes} {v : α}

/-! ### the four readings -/

theorem Reads.shape (h : Reads P dec) (hb : dec b = some (v, r)) : P b r := (h b v r hb).1

theorem Reads.suf (h : Reads P dec) (hb : dec b = some (v, r)) : Suf r b :=
  let ⟨_, p, e, _⟩ := h b v r hb; ⟨p, e⟩

theorem Reads.append (h : Reads P dec) (hb : dec b = some (v, r)) (t : Bytes) : dec (b ++ t) = some (v, r ++ t) := by
  obtain ⟨_, p, rfl, hp⟩ := h b v r hb
  rw [List.append_assoc]; exact hp _

theorem Reads.split (h : Reads P dec) (hb : dec b = some (v, r)) : ∃ p, b = p ++ r ∧ dec p = some (v, []) := by
  obtain ⟨_, p, rfl, hp⟩ := h b v r hb
  exact ⟨p, rfl, by simpa using hp []⟩
end

/-! ### closure: how `dec` continues the decoder it starts with -/

theorem Reads.none : Reads P fun _ => (Option.none : Option (α × Bytes)) := fun _ _ _ h => nomatch h

theorem Reads.pure (hP : ∀ b, P b b) (v : α) : Reads P fun r => some (v, r) := by
  intro b w r h; cases h; exact ⟨hP _, [], rfl, fun _ => rfl⟩

/-- nothing is read (`P` is `Eq`) -/
theorem Reads.done (v : α) : Reads Eq fun r => some (v, r) := .pure (fun _ => rfl) v

theorem Reads.ite {c : Prop} [Decidable c] {A B : Bytes → Option (α × Bytes)} (hA : c → Reads P A) (hB : ¬c → Reads P B) :
    Reads P fun b => if c then A b else B b := by
  by_cases hc : c
  · simpa only [if_pos hc] using hA hc
  · simpa only [if_neg hc] using hB hc

theorem Reads.guard {c : Prop} [Decidable c] {B : Bytes → Option (α × Bytes)} (hB : ¬c → Reads P B) :
    Reads P fun b => if c then Option.none else B b := .ite (fun _ => .none) hB

theorem Reads.when {c : Prop} [Decidable c] {A : Bytes → Option (α × Bytes)} (hA : c → Reads P A) :
    Reads P fun b => if c then A b else Option.none := .ite hA fun _ => .none

theorem Reads.mono {dec : Bytes → Option (α × Bytes)} (hPQ : ∀ {b r}, P b r → Q b r) (h : Reads P dec) : Reads Q dec :=
  fun b v r hb => ⟨hPQ (h b v r hb).1, (h b v r hb).2⟩

theorem Reads.of_eq {dec dec' : Bytes → Option (α × Bytes)} (h : ∀ b, dec b = dec' b) (h' : Reads P dec') : Reads P dec := by
  rwa [show dec = dec' from funext h]

theorem Reads.bind {d1 : Bytes → Option (α × Bytes)} {dec : Bytes → Option (β × Bytes)}
    (hR : ∀ {a b c}, P a b → Q b c → R a c) (h1 : Reads P d1)
    (h2 : ∀ a p, (∀ t, d1 (p ++ t) = some (a, t)) → Reads Q fun r => dec (p ++ r))
    (h0 : ∀ b, d1 b = Option.none → dec b = Option.none := by intro b hb; simp only [hb]) : Reads R dec := by
  intro b w r h
  cases h1' : d1 b with
  | none => rw [h0 b h1'] at h; cases h
  | some x =>
    obtain ⟨a, r1⟩ := x
    obtain ⟨hP, p1, rfl, hp1⟩ := h1 _ _ _ h1'
    obtain ⟨hQ, p2, rfl, hp2⟩ := h2 a p1 hp1 _ _ _ h
    exact ⟨hR hP hQ, p1 ++ p2, by simp, fun t => by simpa using hp2 t⟩

theorem Reads.post {d1 : Bytes → Option (α × Bytes)} {dec : Bytes → Option (β × Bytes)} (h1 : Reads P d1)
    (h2 : ∀ a p, (∀ t, d1 (p ++ t) = some (a, t)) → Reads Eq fun r => dec (p ++ r))
    (h0 : ∀ b, d1 b = Option.none → dec b = Option.none := by intro b hb; simp only [hb]) : Reads P dec :=
  .bind (Q := Eq) (fun h e => e ▸ h) h1 h2 h0

theorem Reads.mapVal {d1 : Bytes → Option (α × Bytes)} {dec : Bytes → Option (β × Bytes)} (g : α → β) (h1 : Reads P d1)
    (h0 : ∀ b, d1 b = Option.none → dec b = Option.none := by intro b hb; simp only [hb])
    (h2 : ∀ a b r, d1 b = some (a, r) → dec b = some (g a, r) := by intro a b r hb; simp only [hb]) : Reads P dec := by
  intro b w r h
  cases h1' : d1 b with
  | none => rw [h0 b h1'] at h; cases h
  | some x =>
    obtain ⟨a, r1⟩ := x
    rw [h2 a b r1 h1'] at h; cases h
    obtain ⟨hP, p, rfl, hp⟩ := h1 _ _ _ h1'
    exact ⟨hP, p, rfl, fun t => h2 a _ t (hp t)⟩

/-! ### after a head: scalars, strings, arrays, maps, tags (over `WFN`, and their `L` twins over `WFL`) -/

theorem not_short {q : Bytes} {n : Nat} (hq : q.length = n) (r : Bytes) : ¬ (q ++ r).length < n := by
  simp only [List.length_append]; omega

theorem take_prefix (a b : Bytes) : (a ++ b).take ((a ++ b).length - b.length) = a := by simp

/-- What a head `(mt, _, arg)` may be followed by. Quantifying over the bytes `b` of the head keeps them out of
the statement about what follows, so that `Reads.head` can hand the rest of `dec` to the next lemma. -/
def Body (P : Bytes → Bytes → Prop) (mt arg : Nat) (r0 r : Bytes) : Prop :=
  ∀ b ai, decHead b = some (mt, ai, arg, r0) → P b r

theorem Reads.head {dec : Bytes → Option (α × Bytes)}
    (h : ∀ mt ai arg p, mt < 8 ∧ ai < 28 → (∀ t, decHead (p ++ t) = some (mt, ai, arg, t)) →
      Reads (Body P mt arg) fun r => dec (p ++ r))
    (h0 : ∀ b, decHead b = Option.none → dec b = Option.none := by intro b hb; simp only [hb]) : Reads P dec := by
  intro b v r hb
  cases hd : decHead b with
  | none => rw [h0 b hd] at hb; cases hb
  | some x =>
    obtain ⟨mt, ai, arg, r0⟩ := x
    obtain ⟨p, rfl, _, hp⟩ := decHead_split b hd
    obtain ⟨hB, q, rfl, hq⟩ := h mt ai arg p (decHead_bounds hd) hp _ _ _ hb
    exact ⟨hB _ ai hd, p ++ q, by simp, fun t => by simpa using hq t⟩

variable {mt arg d n : Nat} {dec : Bytes → Option (α × Bytes)}

/-- A string body: `G r` is the decoder's refusal condition, which `hG` splits into running short of the `arg`
bytes the head announced and whatever else `c` it refuses for (a limit, a fixed size); `g` makes the value from
the content. `hP` says that a head followed by `arg` bytes has the shape `P` wanted (`wf_str`, `WFL.str`). -/
theorem Reads.strOf {G : Bytes → Prop} [DecidablePred G] (c : Prop) (hG : ∀ r, G r ↔ c ∨ r.length < arg) (g : Bytes → α)
    (hP : ∀ r0, ¬c → arg ≤ r0.length → Body P mt arg r0 (r0.drop arg)) :
    Reads (Body P mt arg) fun r => if G r then Option.none else some (g (r.take arg), r.drop arg) := by
  intro b v r h
  dsimp only at h
  split at h
  · cases h
  next hc =>
    cases h
    rw [hG] at hc
    have hl : arg ≤ b.length := by omega
    refine ⟨hP b (not_or.mp hc).1 hl, b.take arg, (List.take_append_drop ..).symm, fun t => ?_⟩
    have hlen : (b.take arg).length = arg := by simp only [List.length_take]; omega
    show (if _ then _ else _) = _
    rw [if_neg (by rw [hG]; exact not_or.mpr ⟨(not_or.mp hc).1, not_short hlen t⟩), List.take_left' hlen, List.drop_left' hlen]

/-! In `scalar` … `tag` and their `L` twins the major type is whatever the conditions passed on the way say it
is: `omega` reads them off the context. -/

theorem Reads.scalar (v : α) (hm : mt = 0 ∨ mt = 1 ∨ mt = 7 := by omega) : Reads (Body WF1 mt arg) fun r => some (v, r) :=
  .pure (fun _ _ _ hd => wf_scalar hd hm) v

theorem Reads.str {G : Bytes → Prop} [DecidablePred G] (c : Prop) (hG : ∀ r, G r ↔ c ∨ r.length < arg) (g : Bytes → α)
    (hm : mt = 2 ∨ mt = 3 := by omega) :
    Reads (Body WF1 mt arg) fun r => if G r then Option.none else some (g (r.take arg), r.drop arg) :=
  .strOf c hG g fun _ _ hl _ _ hd => wf_str hd hm hl

theorem Reads.arr (h : Reads (WFN arg) dec) (hm : mt = 4 := by omega) : Reads (Body WF1 mt arg) dec :=
  h.mono fun h _ _ hd => wf_arr hd hm h

theorem Reads.map (h : Reads (WFN (2 * arg)) dec) (hm : mt = 5 := by omega) : Reads (Body WF1 mt arg) dec :=
  h.mono fun h _ _ hd => wf_map hd hm h

theorem Reads.tag (h : Reads WF1 dec) (hm : mt = 6 := by omega) : Reads (Body WF1 mt arg) dec :=
  h.mono fun h _ _ hd => wf_tag hd hm h

theorem Reads.cons {d1 : Bytes → Option (α × Bytes)} {dec : Bytes → Option (β × Bytes)} (h1 : Reads WF1 d1)
    (h2 : ∀ a p, (∀ t, d1 (p ++ t) = some (a, t)) → Reads (WFN n) fun r => dec (p ++ r))
    (h0 : ∀ b, d1 b = Option.none → dec b = Option.none := by intro b hb; simp only [hb]) : Reads (WFN (n + 1)) dec :=
  .bind (P := WF1) (Q := WFN n) wfn_cons h1 h2 h0

theorem Reads.cast {m : Nat} (h : n = m) (hr : Reads (WFN n) dec) : Reads (WFN m) dec := h ▸ hr

theorem Reads.scalarL (v : α) (hm : mt = 0 ∨ mt = 1 ∨ mt = 7 := by omega) : Reads (Body (WFL d 1) mt arg) fun r => some (v, r) :=
  .pure (fun _ _ _ hd => .scalar hd hm .zero) v

theorem Reads.strL (g : Bytes → α) (hm : mt = 2 ∨ mt = 3 := by omega) :
    Reads (Body (WFL d 1) mt arg) fun r =>
      if arg ≥ maxLen ∨ r.length < arg then Option.none else some (g (r.take arg), r.drop arg) :=
  .strOf _ (fun _ => .rfl) g fun _ hc hl _ _ hd => .str hd hm (Nat.lt_of_not_le hc) hl .zero

theorem Reads.arrL (h : Reads (WFL d arg) dec) (hl : arg < maxLen := by omega) (hm : mt = 4 := by omega) :
    Reads (Body (WFL (d + 1) 1) mt arg) dec := h.mono fun h _ _ hd => .arr (hm ▸ hd) hl h .zero

theorem Reads.mapL (h : Reads (WFL d (2 * arg)) dec) (hl : 2 * arg < maxLen := by omega) (hm : mt = 5 := by omega) :
    Reads (Body (WFL (d + 1) 1) mt arg) dec := h.mono fun h _ _ hd => .map (hm ▸ hd) hl h .zero

theorem Reads.tagL (h : Reads (WFL d 1) dec) (hm : mt = 6 := by omega) : Reads (Body (WFL (d + 1) 1) mt arg) dec :=
  h.mono fun h _ _ hd => .tag (hm ▸ hd) h .zero

theorem Reads.consL {d1 : Bytes → Option (α × Bytes)} {dec : Bytes → Option (β × Bytes)} (h1 : Reads (WFL d 1) d1)
    (h2 : ∀ a p, (∀ t, d1 (p ++ t) = some (a, t)) → Reads (WFL d n) fun r => dec (p ++ r))
    (h0 : ∀ b, d1 b = Option.none → dec b = Option.none := by intro b hb; simp only [hb]) : Reads (WFL d (n + 1)) dec :=
  .bind (P := WFL d 1) (Q := WFL d n) (fun h1 h2 => Nat.add_comm 1 n ▸ h1.append h2) h1 h2 h0

/-! ### the structural decoder is a reader; byte strings handed on, `unwrap`, pointers -/

theorem decode_reads (f d : Nat) : Reads (WFL d 1) (decode f d) := fun b v r h =>
  let ⟨p, e, _, hp⟩ := decode_local f d b v r h
  ⟨decode_wfl f d b v r h, p, e, fun t => hp f t (.inl (Nat.le_refl f))⟩

theorem decode_reads_wf (f d : Nat) : Reads WF1 (decode f d) := (decode_reads f d).mono WFL.wfn

def StrBody (n : Nat) (r0 r : Bytes) : Prop := n ≤ r0.length ∧ r = r0.drop n

theorem Reads.take (h : ∀ q, q.length = n → Reads Eq fun r => dec (q ++ r))
    (h0 : ∀ r, r.length < n → dec r = Option.none := by intro r hr; exact if_pos hr) : Reads (StrBody n) dec := by
  intro b v r hb
  have hl : n ≤ b.length := Nat.le_of_not_lt fun hlt => by rw [h0 b hlt] at hb; cases hb
  have hq : (b.take n).length = n := by simp only [List.length_take]; omega
  obtain ⟨e, p, hp, ht⟩ := h (b.take n) hq (b.drop n) v r (by simpa only [List.take_append_drop] using hb)
  exact ⟨⟨hl, e.symm⟩, b.take n ++ p, by rw [List.append_assoc, ← hp, List.take_append_drop],
    fun t => by simpa using ht t⟩

/-- `Decoder.unwrap`: null (which leaves `z`), or a string head whose content goes to `dec` -/
theorem Reads.unwrap (z : α) (h0 : ∀ b, unwrapBytes b = Option.none → dec b = Option.none)
    (hz : ∀ b r, unwrapBytes b = some Option.none → isNullHead b = some r → dec b = some (z, r))
    (hk : ∀ n p, (∀ t, unwrapBytes (p ++ t) = some (some (n, t))) → Reads (StrBody n) fun r => dec (p ++ r)) :
    Reads WF1 dec := by
  refine .head (h0 := fun b hb => h0 b (by simp only [unwrapBytes, hb])) fun mt ai arg p hlt hp => ?_
  have hu : ∀ t, unwrapBytes (p ++ t) = if mt = 7 ∧ (ai = 22 ∨ ai = 23) then some Option.none
      else if mt = 2 ∨ mt = 3 then some (some (arg, t)) else Option.none :=
    fun t => by simp only [unwrapBytes, hp, if_neg (Nat.not_le.mpr hlt.2)]
  have hn : ∀ t, isNullHead (p ++ t) = if mt = 7 ∧ (ai = 22 ∨ ai = 23) then some t else Option.none :=
    fun t => by simp only [isNullHead, hp]
  by_cases h7 : mt = 7 ∧ (ai = 22 ∨ ai = 23)
  · exact .of_eq (fun r => hz _ r (by rw [hu, if_pos h7]) (by rw [hn, if_pos h7])) (.scalar z)
  · by_cases h23 : mt = 2 ∨ mt = 3
    · exact (hk arg p fun t => by rw [hu, if_neg h7, if_pos h23]).mono fun ⟨hl, e⟩ _ _ hd => e ▸ wf_str hd h23 hl
    · exact .of_eq (fun r => h0 _ (by rw [hu, if_neg h7, if_neg h23])) .none

theorem isNullHead_wf {b r : Bytes} (h : isNullHead b = some r) : WF1 b r := by
  revert h
  fun_cases isNullHead b <;> intro h <;> cases h
  next h7 hd => exact wf_scalar hd (.inr (.inr h7.1))

/-- a pointer: null (which leaves `z`), or what `d1` reads. Null is decided by the first byte, and `d1`
reads at least that byte. -/
theorem Reads.orNull {d1 : Bytes → Option (β × Bytes)} (z : α) (g : β → α) (h1 : Reads WF1 d1)
    (hz : ∀ b r, isNullHead b = some r → dec b = some (z, r))
    (h0 : ∀ b, isNullHead b = Option.none → d1 b = Option.none → dec b = Option.none)
    (h2 : ∀ a b r, isNullHead b = Option.none → d1 b = some (a, r) → dec b = some (g a, r)) : Reads WF1 dec := by
  intro b v r h
  cases hn : isNullHead b with
  | some r0 =>
    rw [hz b r0 hn] at h; cases h
    cases b with
    | nil => cases hn
    | cons x xs =>
      have hw := isNullHead_wf hn
      rw [isNullHead_cons] at hn
      split at hn <;> cases hn
      next hx => exact ⟨hw, [x], rfl, fun t => hz _ t (by rw [List.singleton_append, isNullHead_cons, if_pos hx])⟩
  | none =>
    cases hd : d1 b with
    | none => rw [h0 b hn hd] at h; cases h
    | some y =>
      obtain ⟨a, r1⟩ := y
      rw [h2 a b r1 hn hd] at h; cases h
      obtain ⟨hw, p, rfl, hp⟩ := h1 _ _ _ hd
      refine ⟨hw, p, rfl, fun t => h2 a _ t ?_ (hp t)⟩
      cases p with
      -- `p` is not empty: it is one item (`h1` at `[]`), and every rule of `WFN` starts with a head
      | nil => cases (h1 _ _ _ (hp [])).1 <;> rename_i hd' _ <;> cases hd'
      | cons x p =>
        rw [List.cons_append, isNullHead_cons] at hn ⊢
        split at hn
        · cases hn
        · exact if_neg (by assumption)

/-! ### `interface{}` values -/

theorem any_reads (f : Nat) : (∀ d, Reads (WFL d 1) (decodeAny f d)) ∧ (∀ d n, Reads (WFL d n) (decodeAnys f d n)) ∧
    ∀ d n acc, Reads (WFL d (2 * n)) (decodeAnyPairs f d n acc) := by
  induction f with
  | zero =>
    refine ⟨fun d => ?_, fun d n => ?_, fun d n acc => ?_⟩
    · exact .of_eq (fun b => by simp only [decodeAny]) .none
    · cases n with
      | zero => exact .of_eq (fun b => by simp only [decodeAnys]) (.pure (fun _ => .zero) [])
      | succ n => exact .of_eq (fun b => by simp only [decodeAnys]) .none
    · cases n with
      | zero => exact .of_eq (fun b => by simp only [decodeAnyPairs]) (.pure (fun _ => .zero) acc)
      | succ n => exact .of_eq (fun b => by simp only [decodeAnyPairs]) .none
  | succ f ih =>
    obtain ⟨iA, iL, iP⟩ := ih
    refine ⟨fun d => ?_, fun d n => ?_, fun d n acc => ?_⟩
    · refine .head (h0 := fun b hb => by simp only [decodeAny, hb]) fun mt ai arg p hlt hp => ?_
      simp only [decodeAny, hp]
      -- the tests of `decodeAny` in their order: major types 0, 1 (int64 range), 2, 3, then 4, 5, 6 (the three holes),
      -- then the simple values false, true, null, undefined
      refine .ite (fun _ => .guard fun _ => .scalarL _) fun _ => .ite (fun _ => .guard fun _ => .scalarL _) fun _ =>
        .ite (fun _ => .strL _) fun _ => .ite (fun _ => .strL _) fun _ =>
        .ite (fun _ => .guard fun _ => ?_) fun _ => .ite (fun _ => .guard fun _ => ?_) fun _ =>
        .ite (fun _ => .guard fun _ => ?_) fun _ =>
        .ite (fun _ => .scalarL _) fun _ => .ite (fun _ => .scalarL _) fun _ =>
        .ite (fun _ => .scalarL _) fun _ => .when fun _ => .scalarL _
      all_goals obtain ⟨d, rfl⟩ : ∃ d', d = d' + 1 := ⟨d - 1, by omega⟩
      all_goals simp only [Nat.add_sub_cancel]
      · exact .arrL (.mapVal AnyVal.arr (iL d arg))  -- 4
      · exact .mapL (.mapVal AnyVal.map (iP d arg []))  -- 5
      · refine .tagL (.post (decode_reads f d) fun x q hq => ?_)
        simp only [hq, take_prefix]
        exact .done _
    · cases n with
      | zero => exact .of_eq (fun b => by simp only [decodeAnys]) (.pure (fun _ => .zero) [])
      | succ n =>
        refine .consL (iA d) (h0 := fun b hb => by simp only [decodeAnys, hb]) fun x p hp => ?_
        simp only [decodeAnys, hp]
        exact .mapVal (x :: ·) (iL d n)
    · cases n with
      | zero => exact .of_eq (fun b => by simp only [decodeAnyPairs]) (.pure (fun _ => .zero) acc)
      | succ n =>
        refine .consL (iA d) (h0 := fun b hb => by simp only [decodeAnyPairs, hb]) fun k p hp => ?_
        simp only [decodeAnyPairs, hp]
        refine .consL (iA d) fun v q hq => ?_
        simp only [hq]
        exact .guard fun _ => iP d n _

theorem decodeAnys_append (f d n : Nat) (b t : Bytes) (vs : List AnyVal) (r : Bytes) (h : decodeAnys f d n b = some (vs, r)) :
    decodeAnys f d n (b ++ t) = some (vs, r ++ t) := ((any_reads f).2.1 d n).append h t

theorem decodeAnyPairs_append (f d n : Nat) (acc : List (AnyVal × AnyVal)) (b t : Bytes) (ps : List (AnyVal × AnyVal)) (r : Bytes)
    (h : decodeAnyPairs f d n acc b = some (ps, r)) : decodeAnyPairs f d n acc (b ++ t) = some (ps, r ++ t) :=
  ((any_reads f).2.2 d n acc).append h t

theorem decodeAnys_split (f d n : Nat) (b : Bytes) (vs : List AnyVal) (r : Bytes) (h : decodeAnys f d n b = some (vs, r)) :
    ∃ p, b = p ++ r ∧ decodeAnys f d n p = some (vs, []) := ((any_reads f).2.1 d n).split h

theorem decodeAnyPairs_split (f d n : Nat) (acc : List (AnyVal × AnyVal)) (b : Bytes) (ps : List (AnyVal × AnyVal)) (r : Bytes)
    (h : decodeAnyPairs f d n acc b = some (ps, r)) : ∃ p, b = p ++ r ∧ decodeAnyPairs f d n acc p = some (ps, []) :=
  ((any_reads f).2.2 d n acc).split h

theorem decodeAnys_suf (f d n : Nat) (b : Bytes) (vs : List AnyVal) (r : Bytes) (h : decodeAnys f d n b = some (vs, r)) : Suf r b :=
  ((any_reads f).2.1 d n).suf h

theorem decodeAnyPairs_suf (f d n : Nat) (acc : List (AnyVal × AnyVal)) (b : Bytes) (ps : List (AnyVal × AnyVal)) (r : Bytes)
    (h : decodeAnyPairs f d n acc b = some (ps, r)) : Suf r b := ((any_reads f).2.2 d n acc).suf h

theorem decodeAny_wfl (f d : Nat) (b : Bytes) (v : AnyVal) (r : Bytes) (h : decodeAny f d b = some (v, r)) : WFL d 1 b r :=
  ((any_reads f).1 d).shape h

theorem decodeAnys_wfl (f d n : Nat) (b : Bytes) (vs : List AnyVal) (r : Bytes) (h : decodeAnys f d n b = some (vs, r)) : WFL d n b r :=
  ((any_reads f).2.1 d n).shape h

theorem decodeAnyPairs_wfl (f d n : Nat) (acc : List (AnyVal × AnyVal)) (b : Bytes) (ps : List (AnyVal × AnyVal)) (r : Bytes)
    (h : decodeAnyPairs f d n acc b = some (ps, r)) : WFL d (2 * n) b r :=
  ((any_reads f).2.2 d n acc).shape h

theorem decodeAnys_wf (f d n : Nat) (b : Bytes) (vs : List AnyVal) (r : Bytes) (h : decodeAnys f d n b = some (vs, r)) : WFN n b r :=
  (decodeAnys_wfl f d n b vs r h).wfn

theorem decodeAnyPairs_wf (f d n : Nat) (acc : List (AnyVal × AnyVal)) (b : Bytes) (ps : List (AnyVal × AnyVal)) (r : Bytes)
    (h : decodeAnyPairs f d n acc b = some (ps, r)) : WFN (2 * n) b r := (decodeAnyPairs_wfl f d n acc b ps r h).wfn

/-! ### COSE header maps -/

/-- A COSE header map delimits every label and value with the structural decoder and reads it as an
`interface{}` value; no typed decoder is called, so what is read is within the limits, as for `decodeAny`. -/
theorem hdrPairs_reads : ∀ f d n acc, Reads (WFL d (2 * n)) (hdrPairs f d n acc)
  | _, d, 0, acc => .of_eq (fun b => by simp only [hdrPairs]) (.pure (fun _ => .zero) acc)
  | 0, d, n+1, acc => .of_eq (fun b => by simp only [hdrPairs]) .none
  | f+1, d, n+1, acc => by
    refine .consL (decode_reads f d) (h0 := fun b hb => by simp only [hdrPairs, hb]) fun x p hp => ?_
    simp only [hdrPairs, hp, take_prefix]
    split
    · split
      · exact .none
      · refine .consL (decode_reads f d) fun y q hq => ?_
        simp only [hq, take_prefix]
        split
        · exact hdrPairs_reads f d n _
        · exact .none
    · exact .none

theorem decodeHdrMap_reads : ∀ f d, Reads (WFL d 1) (decodeHdrMap f d)
  | 0, d => .of_eq (fun b => by simp only [decodeHdrMap]) .none
  | f+1, d => by
    refine .head (h0 := fun b hb => by simp only [decodeHdrMap, hb]) fun mt ai arg p hlt hp => ?_
    simp only [decodeHdrMap, hp]
    refine .when fun _ => .guard fun _ => ?_
    obtain ⟨d, rfl⟩ : ∃ d', d = d' + 1 := ⟨d - 1, by omega⟩
    exact .mapL (hdrPairs_reads f d arg [])

/-! ### the typed decoders -/

/-- how many items a struct's fields occupy on the wire (`skip` = the omittable field is absent) -/
def Fields.wire : Fields → Bool → Nat
  | .nil, _ => 0
  | .cons _ o fs, skip => if o ∧ skip then fs.wire false else fs.wire skip + 1
  | .hdr fs, skip => fs.wire skip + 2

theorem Fields.wire_false : (fs : Fields) → fs.wire false = fs.slots
  | .nil => rfl
  | .cons s o fs | .hdr fs => by simp [Fields.wire, Fields.slots, Fields.wire_false fs]

theorem Fields.wire_true : (fs : Fields) → 1 ≤ fs.omittables → fs.wire true + 1 = fs.slots
  | .nil, h => by simp [Fields.omittables] at h
  | .cons s o fs, h => by
    cases o with
    | true => simp [Fields.wire, Fields.slots, Fields.wire_false]
    | false =>
      simp [Fields.wire, Fields.slots]; exact Fields.wire_true fs h
  | .hdr fs, h => by
    simp [Fields.wire, Fields.slots]; have := Fields.wire_true fs h; omega

/-- `WFN`, not `WFL`: `Tag[T]`, `Bstr[T]` and the other wrappers start a fresh `Decoder` (a fresh nesting budget),
and `Decoder.unwrap` does not look at `MaxArrayDecodeLength`. -/
theorem typed_reads (ok : CertOracle) (f : Nat) :
    (∀ d s, Reads WF1 (decodeS ok f d s)) ∧
    (∀ d e n, Reads (WFN n) (decodeElems ok f d e n)) ∧
    (∀ d fs skip, Reads (WFN (fs.wire skip)) (decodeFields ok f d fs skip)) ∧
    (∀ d ks vs n acc, Reads (WFN (2 * n)) (decodeMapPairs ok f d ks vs n acc)) := by
  induction f with
  | zero =>
    refine ⟨fun d s => ?_, fun d e n => ?_, fun d fs skip => ?_, fun d ks vs n acc => ?_⟩
    · exact .of_eq (fun b => by simp only [decodeS]) .none
    · cases n with
      | zero => exact .of_eq (fun b => by simp only [decodeElems]) (.pure (fun _ => .zero) [])
      | succ n => exact .of_eq (fun b => by simp only [decodeElems]) .none
    · exact .of_eq (fun b => by simp only [decodeFields]) .none
    · cases n with
      | zero => exact .of_eq (fun b => by simp only [decodeMapPairs]) (.pure (fun _ => .zero) acc)
      | succ n => exact .of_eq (fun b => by simp only [decodeMapPairs]) .none
  | succ f ih =>
    obtain ⟨iS, iE, iF, iM⟩ := ih
    refine ⟨fun d s => ?_, fun d e n => ?_, fun d fs skip => ?_, fun d ks vs n acc => ?_⟩
    · cases s
      -- `case'` runs the step a group of targets begins with and leaves their goals open for the `case`s below
      case' uint | int | bool | text | bytes | fixed | slice | struct | mapOf | tagAny | timestamp =>
        refine .head (h0 := fun b hb => by simp only [decodeS, hb]) fun mt ai arg p hlt hp => ?_
        -- `isNullHead` is unfolded for the `struct` arm alone, which looks at the input a second time through it
        simp only [decodeS, isNullHead, hp]
      case' tagNum | raw | viaRaw | label | chunk | coseKey =>
        refine .post (decode_reads_wf f d) (h0 := fun b hb => by simp only [decodeS, hb]) fun x p hp => ?_
        simp only [decodeS, hp, take_prefix]
      case' bstr | wrap | wrapBytes | cert =>
        refine .unwrap _ (fun b hb => by simp only [decodeS, hb]) (fun b r hu hn => by simp only [decodeS, hu, hn]; rfl)
          fun n p hp => ?_
        simp only [decodeS, hp]
        refine .take fun q hq => ?_
        simp only [if_neg (not_short hq _), List.take_left' hq, List.drop_left' hq]
      -- each term below follows its arm of `decodeS` test by test: `.ite` is an `if` with two readers, `.when` a test whose
      -- other side refuses, `.guard` a limit check in front of a reader; at a `.scalar`, `.str`, `.arr`, `.map`, `.tag`
      -- the major type is what the tests passed on the way say (the `fun _` hypotheses, read by `omega`)
      case uint => exact .ite (fun _ => .when fun _ => .scalar _) fun _ => .when fun _ => .when fun _ => .scalar _
      case int =>
        exact .ite (fun _ => .when fun _ => .scalar _) fun _ => .ite (fun _ => .when fun _ => .scalar _) fun _ =>
          .when fun _ => .scalar _
      case bool => exact .ite (fun _ => .scalar _) fun _ => .when fun _ => .scalar _
      case text => exact .when fun _ => .str _ (fun _ => .rfl) _
      case bytes =>
        exact .ite (fun _ => .str _ (fun _ => .rfl) _) fun _ =>
          .ite (fun _ => .guard fun _ => .arr <|
            .mapVal _ (iE (d - 1) (.uint 255) arg) (h2 := fun a b r hb => by simp only [hb]; rfl)) fun _ =>
          .when fun _ => .scalar _
      case fixed n =>
        exact .ite (fun _ => .str (arg ≥ maxLen ∨ arg > n) (fun _ => by omega) fun x => Val.bytes (x ++ List.replicate (n - arg) 0)) fun _ =>
          .when fun _ => .guard fun _ => .arr <|
            .mapVal _ (iE (d - 1) (.uint 255) arg) (h2 := fun a b r hb => by simp only [hb]; rfl)
      case slice e =>
        exact .ite (fun _ => .guard fun _ => .arr (.mapVal .list (iE (d - 1) e arg))) fun _ => .when fun _ => .scalar _
      case struct fs =>
        refine .ite (fun _ => .guard fun _ =>
            .ite (fun hs => .arr <| .cast (by rw [Fields.wire_false, hs]) <| .mapVal .strct (iF (d - 1) fs false)) fun _ =>
            .when fun ho => .arr <| .cast (by have := Fields.wire_true fs (by omega); omega) <|
              .mapVal .strct (iF (d - 1) fs true)) fun _ => .when fun h7 => ?_
        by_cases hn : mt = 7 ∧ (ai = 22 ∨ ai = 23)
        · simp only [if_pos hn]; exact .scalar _
        · simp only [if_neg hn]; exact .none
      case ptr e =>
        exact .orNull .nilp .ref (iS d e) (fun b r hn => by simp only [decodeS, hn])
          (fun b hn hb => by simp only [decodeS, hn, hb]) fun a b r hn hb => by simp only [decodeS, hn, hb]
      case any =>
        exact .mapVal .any (((any_reads f).1 d).mono WFL.wfn) (fun b hb => by simp only [decodeS, hb])
          fun a b r hb => by simp only [decodeS, hb]
      case mapOf ks vs => exact .when fun _ => .guard fun _ => .map (.mapVal Val.map (iM (d - 1) ks vs arg []))
      case tagAny e =>
        exact .when fun _ => .tag (.mapVal _ (iS maxDepth e) (h2 := fun a b r hb => by simp only [hb]; rfl))
      case timestamp =>
        refine .ite (fun _ => .scalar _) fun _ => .when fun _ => .when fun _ => .tag <|
          .post (iS maxDepth (.int 64)) fun v q hq => ?_
        simp only [hq]
        cases v with
        | int i => exact .done _
        | _ => exact .none
      case raw => exact .done _
      -- from here on `split` is on the typed pass over the raw bytes `p`: first the one shape it must return
      -- (`some (.tag m v, [])`, `some (.list (a :: b :: ms), [])`, `some (v, [])` …), then anything else
      case tagNum | chunk =>
        split
        · exact .when fun _ => .done _
        · exact .none
      case viaRaw =>
        split
        · exact .done _
        · exact .none
      case label =>
        split
        · split  -- `labelOfAny a`: a label, or not one
          · exact .done _
          · exact .none
        · exact .none
      case coseKey =>
        split
        · split  -- the entry for label 1 (`kty`): 0, a text (refused if "Reserved"), anything else, missing
          · exact .none
          · exact .guard fun _ => .done _
          · exact .done _
          · exact .none
        · exact .none
      case bstr | wrap =>
        split  -- the content `q` decoded apart: all of it consumed, or anything else
        · exact .done _
        · exact .none
      case wrapBytes => exact .done _
      case cert => exact .when fun _ => .done _
    · cases n with
      | zero => exact .of_eq (fun b => by simp only [decodeElems]) (.pure (fun _ => .zero) [])
      | succ n =>
        refine .cons (iS d e) (h0 := fun b hb => by simp only [decodeElems, hb]) fun x p hp => ?_
        simp only [decodeElems, hp]
        exact .mapVal (x :: ·) (iE d e n)
    · cases fs with
      | nil => exact .of_eq (fun b => by simp only [decodeFields]) (.pure (fun _ => .zero) [])
      | cons s o fs =>
        by_cases hos : o = true ∧ skip = true
        · exact .cast (by simp only [Fields.wire, if_pos hos]) <|
            .mapVal (zeroVal (f + 1) s :: ·) (iF d fs false) (fun b hb => by simp only [decodeFields, if_pos hos, hb])
              fun a b r hb => by simp only [decodeFields, if_pos hos, hb]
        · refine .cast (by simp only [Fields.wire, if_neg hos]) <|
            .cons (n := fs.wire skip) (iS d s) (h0 := fun b hb => by simp only [decodeFields, if_neg hos, hb]) fun x p hp => ?_
          simp only [decodeFields, if_neg hos, hp]
          exact .mapVal (x :: ·) (iF d fs skip)
      | hdr fs =>
        refine .cons (n := fs.wire skip + 1) (iS maxDepth .bytes) (h0 := fun b hb => by simp only [decodeFields, hb])
          fun x p hp => ?_
        cases x with
        | bytes pb =>
          simp only [decodeFields, hp]
          split
          · exact .none
          next pm _ =>
            refine .cons ((decodeHdrMap_reads f maxDepth).mono WFL.wfn) fun um q hq => ?_
            simp only [hq]
            exact .mapVal (.hdr pm um :: ·) (iF d fs skip)
        | _ => simp only [decodeFields, hp]; exact .none
    · cases n with
      | zero => exact .of_eq (fun b => by simp only [decodeMapPairs]) (.pure (fun _ => .zero) acc)
      | succ n =>
        refine .cons (iS d ks) (h0 := fun b hb => by simp only [decodeMapPairs, hb]) fun k p hp => ?_
        simp only [decodeMapPairs, hp]
        refine .cons (iS d vs) fun v q hq => ?_
        simp only [hq]
        exact .guard fun _ => iM d ks vs n _

/-- **Every decode target reads exactly one well-formed item and nothing else**: what it returns is a
function of the bytes it consumed. With `WFN.unique`: every decoder of the library that accepts an input agrees with every
other one on where the item ends. -/
theorem decodeS_reads (ok : CertOracle) (f d : Nat) (s : Schema) : Reads WF1 (decodeS ok f d s) := (typed_reads ok f).1 d s

theorem decodeS_wf (ok : CertOracle) (f d : Nat) (s : Schema) (b : Bytes) (v : Val) (r : Bytes)
    (h : decodeS ok f d s b = some (v, r)) : WF1 b r := (decodeS_reads ok f d s).shape h

/-! ### tactic abbreviations for leaf cases of walks over `decodeS` (no proof in this file uses them) -/

/-- close a branch in which `h` determines the result and the goal computes it again on the longer input -/
macro "app_leaf" h:ident : tactic =>
  `(tactic| (first
      | (simp at $h:ident; done)
      | (simp at $h:ident; obtain ⟨h1, h2⟩ := $h:ident; subst h2; simp_all)
      | (simp_all)))

/-- close a branch whose result is `some (_, r0)` or `some (_, r0.drop n)` with `h0 : Suf r0 b` -/
macro "suf_leaf" h:ident h0:ident : tactic =>
  `(tactic| (first
      | (simp at $h:ident; done)
      | (simp at $h:ident; rw [← ($h).2]; first | exact $h0 | exact (Suf.drop _ _).trans $h0)
      | (simp at $h:ident; rw [← $h:ident]; first | exact $h0 | exact (Suf.drop _ _).trans $h0)))

/-- close a branch whose result is `some (_, r0)` or `some (_, r0.drop arg)` with `hd : decHead b = some (mt, ai, arg, r0)` -/
macro "wf_leaf" h:ident hd:ident : tactic =>
  `(tactic| (first
      | (simp at $h:ident; done)
      | (simp at $h:ident; rw [← ($h).2]; first | exact wf_scalar $hd (by omega) | exact wf_str $hd (by omega) (by omega))
      | (simp at $h:ident; rw [← $h:ident]; first | exact wf_scalar $hd (by omega) | exact wf_str $hd (by omega) (by omega))))

end Fdo.Cbor
