import Fdo.Cbor.Proofs
/-
RFC 8949 well-formedness, stated without any decoder: `WFN n b r` says that `b` is `n` well-formed
data items, one after another, followed by `r`. It is the iterative "number of items still owed"
formulation of the RFC's Appendix C: a head of major type 0, 1, 7 pays one item; a string pays one
item and its content bytes; an array head replaces the item it pays by `arg` owed items, a map head by
`2·arg`, a tag by one. No length limit and no nesting limit: this is the grammar, not the library.

Heads with additional info 28..31 (reserved, indefinite length) are not heads (`decHead` refuses them):
the library does not support indefinite lengths. For major type 7 the argument bytes that follow info
24..27 are not looked at (a two-byte simple value below 32 is accepted here, which the RFC calls
not well-formed; of the typed decoders only those that keep an item's bytes as they are, `RawBytes` and
a tag's content read into `interface{}`, accept one).

`WFL d n b r` is the grammar within the library's documented limits: no string is `maxLen` bytes or
longer, no array has `maxLen` items or more, no map has `maxLen/2` pairs or more, and containers (arrays,
maps, tags) nest at most `d` deep. It is not `WFN` with side conditions: a flat count of owed items
cannot tell how deep it is, so in `WFL` an array, map or tag head is followed by its own complete body
(`WFL d arg …`, one level down) and only then by the `n` items still owed at the outer level. `WFL.wfn`
forgets the limits and flattens the nesting (`WFN.append`); it is the bridge between the two. The
structural decoder accepts exactly `WFL`: what it accepts is in `WFL` (`decode_wfl`), hence in `WFN`,
and it accepts all of `WFL` (`WFL.decodes`).
-/
namespace Fdo.Cbor
open Fdo

inductive WFN : Nat → Bytes → Bytes → Prop
  | zero {b : Bytes} : WFN 0 b b
  | scalar {n mt ai arg : Nat} {b r r' : Bytes} : decHead b = some (mt, ai, arg, r) → (mt = 0 ∨ mt = 1 ∨ mt = 7) →
      WFN n r r' → WFN (n + 1) b r'
  | str {n mt ai arg : Nat} {b r r' : Bytes} : decHead b = some (mt, ai, arg, r) → (mt = 2 ∨ mt = 3) → arg ≤ r.length →
      WFN n (r.drop arg) r' → WFN (n + 1) b r'
  | arr {n ai arg : Nat} {b r r' : Bytes} : decHead b = some (4, ai, arg, r) → WFN (arg + n) r r' → WFN (n + 1) b r'
  | map {n ai arg : Nat} {b r r' : Bytes} : decHead b = some (5, ai, arg, r) → WFN (2 * arg + n) r r' → WFN (n + 1) b r'
  | tag {n ai arg : Nat} {b r r' : Bytes} : decHead b = some (6, ai, arg, r) → WFN (1 + n) r r' → WFN (n + 1) b r'

/-- `b` starts with exactly one well-formed item, and `r` is what follows it -/
abbrev WF1 (b r : Bytes) : Prop := WFN 1 b r

theorem WFN.append {n m : Nat} {a b c : Bytes} (h1 : WFN n a b) (h2 : WFN m b c) : WFN (n + m) a c := by
  induction h1 generalizing m c with
  | zero => simpa using h2
  | scalar hd hm _ ih => rw [Nat.add_right_comm]; exact .scalar hd hm (ih h2)
  | str hd hm hl _ ih => rw [Nat.add_right_comm]; exact .str hd hm hl (ih h2)
  | arr hd _ ih => rw [Nat.add_right_comm]; exact .arr hd (Nat.add_assoc .. ▸ ih h2)
  | map hd _ ih => rw [Nat.add_right_comm]; exact .map hd (Nat.add_assoc .. ▸ ih h2)
  | tag hd _ ih => rw [Nat.add_right_comm]; exact .tag hd (Nat.add_assoc .. ▸ ih h2)

/-- **The item boundary is unique**: the same bytes cannot be read as `n` items in two ways. (Both
derivations start with the same head, which decides the constructor and what remains to be read.) -/
theorem WFN.unique {n : Nat} {b r r' : Bytes} (h1 : WFN n b r) (h2 : WFN n b r') : r = r' := by
  induction h1 generalizing r' with
  | zero => cases h2; rfl
  | scalar hd hm _ ih =>
    cases h2 with
    | scalar hd2 _ t => obtain ⟨_, _, _, rfl⟩ : _ ∧ _ ∧ _ ∧ _ := by simpa [hd] using hd2
                        exact ih t
    | str hd2 _ _ _ | arr hd2 _ | map hd2 _ | tag hd2 _ => simp [hd] at hd2; omega
  | str hd hm hl _ ih =>
    cases h2 with
    | str hd2 _ _ t => obtain ⟨_, _, rfl, rfl⟩ : _ ∧ _ ∧ _ ∧ _ := by simpa [hd] using hd2
                       exact ih t
    | scalar hd2 _ _ | arr hd2 _ | map hd2 _ | tag hd2 _ => simp [hd] at hd2; omega
  | arr hd _ ih =>
    cases h2 with
    | arr hd2 t => obtain ⟨_, rfl, rfl⟩ : _ ∧ _ ∧ _ := by simpa [hd] using hd2
                   exact ih t
    | scalar hd2 _ _ | str hd2 _ _ _ | map hd2 _ | tag hd2 _ => simp [hd] at hd2 <;> omega
  | map hd _ ih =>
    cases h2 with
    | map hd2 t => obtain ⟨_, rfl, rfl⟩ : _ ∧ _ ∧ _ := by simpa [hd] using hd2
                   exact ih t
    | scalar hd2 _ _ | str hd2 _ _ _ | arr hd2 _ | tag hd2 _ => simp [hd] at hd2 <;> omega
  | tag hd _ ih =>
    cases h2 with
    | tag hd2 t => obtain ⟨_, rfl, rfl⟩ : _ ∧ _ ∧ _ := by simpa [hd] using hd2
                   exact ih t
    | scalar hd2 _ _ | str hd2 _ _ _ | arr hd2 _ | map hd2 _ => simp [hd] at hd2 <;> omega

/-! ### one-item constructors -/

theorem wf_scalar {b r : Bytes} {mt ai arg : Nat} (hd : decHead b = some (mt, ai, arg, r)) (hm : mt = 0 ∨ mt = 1 ∨ mt = 7) :
    WF1 b r := .scalar hd hm .zero

theorem wf_str {b r : Bytes} {mt ai arg : Nat} (hd : decHead b = some (mt, ai, arg, r)) (hm : mt = 2 ∨ mt = 3)
    (hl : arg ≤ r.length) : WF1 b (r.drop arg) := .str hd hm hl .zero

theorem wf_arr {b r r' : Bytes} {mt ai arg : Nat} (hd : decHead b = some (mt, ai, arg, r)) (hm : mt = 4)
    (he : WFN arg r r') : WF1 b r' := by subst hm; exact .arr hd (by simpa using he)

theorem wf_map {b r r' : Bytes} {mt ai arg : Nat} (hd : decHead b = some (mt, ai, arg, r)) (hm : mt = 5)
    (he : WFN (2 * arg) r r') : WF1 b r' := by subst hm; exact .map hd (by simpa using he)

theorem wf_tag {b r r' : Bytes} {mt ai arg : Nat} (hd : decHead b = some (mt, ai, arg, r)) (hm : mt = 6)
    (he : WF1 r r') : WF1 b r' := by subst hm; exact .tag hd (by simpa using he)

theorem wfn_cons {n : Nat} {a b c : Bytes} (h1 : WF1 a b) (h2 : WFN n b c) : WFN (n + 1) a c :=
  Nat.add_comm .. ▸ h1.append h2

/-! ### the grammar within the limits -/

inductive WFL : Nat → Nat → Bytes → Bytes → Prop
  | zero {d : Nat} {b : Bytes} : WFL d 0 b b
  | scalar {d n mt ai arg : Nat} {b r r' : Bytes} : decHead b = some (mt, ai, arg, r) → (mt = 0 ∨ mt = 1 ∨ mt = 7) →
      WFL d n r r' → WFL d (n + 1) b r'
  | str {d n mt ai arg : Nat} {b r r' : Bytes} : decHead b = some (mt, ai, arg, r) → (mt = 2 ∨ mt = 3) → arg < maxLen →
      arg ≤ r.length → WFL d n (r.drop arg) r' → WFL d (n + 1) b r'
  | arr {d n ai arg : Nat} {b r r1 r' : Bytes} : decHead b = some (4, ai, arg, r) → arg < maxLen →
      WFL d arg r r1 → WFL (d + 1) n r1 r' → WFL (d + 1) (n + 1) b r'
  | map {d n ai arg : Nat} {b r r1 r' : Bytes} : decHead b = some (5, ai, arg, r) → 2 * arg < maxLen →
      WFL d (2 * arg) r r1 → WFL (d + 1) n r1 r' → WFL (d + 1) (n + 1) b r'
  | tag {d n ai arg : Nat} {b r r1 r' : Bytes} : decHead b = some (6, ai, arg, r) →
      WFL d 1 r r1 → WFL (d + 1) n r1 r' → WFL (d + 1) (n + 1) b r'

theorem WFL.append {d n m : Nat} {a b c : Bytes} (h1 : WFL d n a b) (h2 : WFL d m b c) : WFL d (n + m) a c := by
  induction h1 generalizing m c with
  | zero => simpa using h2
  | scalar hd hm _ ih => rw [Nat.add_right_comm]; exact .scalar hd hm (ih h2)
  | str hd hm hlim hl _ ih => rw [Nat.add_right_comm]; exact .str hd hm hlim hl (ih h2)
  | arr hd hlim he _ _ ih => rw [Nat.add_right_comm]; exact .arr hd hlim he (ih h2)
  | map hd hlim he _ _ ih => rw [Nat.add_right_comm]; exact .map hd hlim he (ih h2)
  | tag hd he _ _ ih => rw [Nat.add_right_comm]; exact .tag hd he (ih h2)

/-- A body of `arg` items followed by `n` more is `arg + n` owed items: `WFN.append` flattens each level. -/
theorem WFL.wfn {d n : Nat} {b r : Bytes} (h : WFL d n b r) : WFN n b r := by
  induction h with
  | zero => exact .zero
  | scalar hd hm _ ih => exact .scalar hd hm ih
  | str hd hm _ hl _ ih => exact .str hd hm hl ih
  | arr hd _ _ _ ih1 ih2 => exact .arr hd (ih1.append ih2)
  | map hd _ _ _ ih1 ih2 => exact .map hd (ih1.append ih2)
  | tag hd _ _ ih1 ih2 => exact .tag hd (ih1.append ih2)

/-! ### the structural decoder accepts only well-formed items within the limits -/

mutual
theorem decode_wfl (f d : Nat) (b : Bytes) (v : Item) (r : Bytes) (h : decode f d b = some (v, r)) : WFL d 1 b r := by
  match f with
  | 0 => simp [decode] at h
  | f+1 =>
    obtain ⟨⟨mt, ai, arg, r0⟩, hd, st⟩ := decode_succ_eq_some.1 h
    cases st with
    | uint | nint | simple _ | m7 _ => exact .scalar hd (by simp) .zero
    | bstr h1 | tstr h1 => exact .str hd (by simp) h1 (by simp) (by simpa using .zero)
    | arr h1 hi => exact .arr hd h1 (decodeItems_wfl f _ _ _ _ _ hi) .zero
    | map h1 hi => exact .map hd h1 (decodePairs_wfl f _ _ _ _ _ hi) .zero
    | tag hi => exact .tag hd (decode_wfl f _ _ _ _ hi) .zero
termination_by f
theorem decodeItems_wfl (f d n : Nat) (b : Bytes) (xs : Items) (r : Bytes) (h : decodeItems f d n b = some (xs, r)) : WFL d n b r := by
  match f, n with
  | f, 0 => rw [decodeItems_zero] at h; simp at h; exact h.2 ▸ .zero
  | 0, n+1 => simp [decodeItems] at h
  | f+1, n+1 =>
    obtain ⟨x, r1, ys, h1, h2, _⟩ := decodeItems_succ_some h
    exact Nat.add_comm .. ▸ (decode_wfl f d b x r1 h1).append (decodeItems_wfl f d n r1 ys r h2)
termination_by f
theorem decodePairs_wfl (f d n : Nat) (b : Bytes) (ps : Pairs) (r : Bytes) (h : decodePairs f d n b = some (ps, r)) : WFL d (2 * n) b r := by
  match f, n with
  | f, 0 => rw [decodePairs_zero] at h; simp at h; exact h.2 ▸ .zero
  | 0, n+1 => simp [decodePairs] at h
  | f+1, n+1 =>
    obtain ⟨k, r1, v, r2, qs, h1, h2, h3, _⟩ := decodePairs_succ_some h
    exact (by omega : 1 + (1 + 2 * n) = 2 * (n + 1)) ▸
      (decode_wfl f d b k r1 h1).append ((decode_wfl f d r1 v r2 h2).append (decodePairs_wfl f d n r2 qs r h3))
termination_by f
end

theorem decode_wf (f d : Nat) (b : Bytes) (v : Item) (r : Bytes) (h : decode f d b = some (v, r)) : WF1 b r :=
  (decode_wfl f d b v r h).wfn

theorem decodeItems_wf (f d n : Nat) (b : Bytes) (xs : Items) (r : Bytes) (h : decodeItems f d n b = some (xs, r)) : WFN n b r :=
  (decodeItems_wfl f d n b xs r h).wfn

theorem decodePairs_wf (f d n : Nat) (b : Bytes) (ps : Pairs) (r : Bytes) (h : decodePairs f d n b = some (ps, r)) : WFN (2 * n) b r :=
  (decodePairs_wfl f d n b ps r h).wfn

/-! ### the structural decoder accepts every item within the limits -/

/-- an even number of items read one by one can be read as pairs -/
theorem items_to_pairs (d : Nat) : ∀ (n f : Nat) (b : Bytes) (xs : Items) (r : Bytes),
    decodeItems f d (2 * n) b = some (xs, r) → ∃ ps, decodePairs f d n b = some (ps, r)
  | 0, f, b, xs, r, h => by
    rw [decodeItems_zero] at h; simp at h
    exact ⟨.nil, by rw [decodePairs_zero, h.2]⟩
  | n+1, 0, b, xs, r, h => by simp [Nat.mul_add, decodeItems] at h
  | n+1, 1, b, xs, r, h => by
    obtain ⟨x, r1, ys, h1, h2, _⟩ := decodeItems_succ_some (n := 2 * n + 1) h
    simp [decode] at h1
  | n+1, f+2, b, xs, r, h => by
    obtain ⟨x, r1, ys, h1, h2, _⟩ := decodeItems_succ_some (n := 2 * n + 1) h
    obtain ⟨y, r2, zs, h3, h4, _⟩ := decodeItems_succ_some h2
    obtain ⟨ps, h5⟩ := items_to_pairs d n f r2 zs r h4
    exact ⟨.cons x y ps, by simp [decodePairs, h1, decode_mono h3 (Nat.le_succ f), decodePairs_mono h5 (Nat.le_succ f)]⟩

theorem decodeItems_cons {f1 f2 d n : Nat} {b r1 r : Bytes} {x : Item} {xs : Items}
    (h1 : decode f1 d b = some (x, r1)) (h2 : decodeItems f2 d n r1 = some (xs, r)) :
    ∃ f ys, decodeItems f d (n + 1) b = some (ys, r) :=
  ⟨max f1 f2 + 1, .cons x xs, by
    simp [decodeItems, decode_mono h1 (Nat.le_max_left f1 f2), decodeItems_mono h2 (Nat.le_max_right f1 f2)]⟩

theorem decodeItems_one {f d : Nat} {b : Bytes} {xs : Items} {r : Bytes} (h : decodeItems f d 1 b = some (xs, r)) :
    ∃ g y, decode g d b = some (y, r) := by
  match f with
  | 0 => simp [decodeItems] at h
  | f+1 =>
    obtain ⟨y, r2, zs, h1, h2, _⟩ := decodeItems_succ_some h
    rw [decodeItems_zero] at h2; simp at h2
    exact ⟨f, y, h2.2 ▸ h1⟩

theorem WFL.decodes {d n : Nat} {b r : Bytes} (h : WFL d n b r) : ∃ f xs, decodeItems f d n b = some (xs, r) := by
  induction h with
  | zero => exact ⟨0, .nil, decodeItems_zero 0 _ _⟩
  | @scalar d n mt ai arg b r0 r' hd hm _ ih =>
    obtain ⟨f, xs, ih⟩ := ih
    have : ∃ x, DecStep 0 d (mt, ai, arg, r0) x r0 := by
      rcases hm with rfl | rfl | rfl
      · exact ⟨_, .uint⟩
      · exact ⟨_, .nint⟩
      · by_cases h : ai < 24
        · exact ⟨_, .simple h⟩
        · exact ⟨_, .m7 (by omega)⟩
    obtain ⟨x, hx⟩ := this
    exact decodeItems_cons (decode_succ_eq_some.2 ⟨_, hd, hx⟩) ih
  | @str d n mt ai arg b r0 r' hd hm hlim hlen _ ih =>
    obtain ⟨f, xs, ih⟩ := ih
    have : ∃ x, DecStep 0 d (mt, ai, arg, r0) x (r0.drop arg) := by
      obtain ⟨c, r', rfl, rfl, _, e⟩ := exists_append_of_le_length hlen
      rw [e]
      rcases hm with rfl | rfl
      · exact ⟨_, .bstr hlim⟩
      · exact ⟨_, .tstr hlim⟩
    obtain ⟨x, hx⟩ := this
    exact decodeItems_cons (decode_succ_eq_some.2 ⟨_, hd, hx⟩) ih
  | arr hd hlim _ _ ih1 ih2 =>
    obtain ⟨f1, ys, ih1⟩ := ih1
    obtain ⟨f2, xs, ih2⟩ := ih2
    exact decodeItems_cons (decode_succ_eq_some.2 ⟨_, hd, .arr hlim ih1⟩) ih2
  | map hd hlim _ _ ih1 ih2 =>
    obtain ⟨f1, ys, ih1⟩ := ih1
    obtain ⟨f2, xs, ih2⟩ := ih2
    obtain ⟨ps, hps⟩ := items_to_pairs _ _ _ _ _ _ ih1
    exact decodeItems_cons (decode_succ_eq_some.2 ⟨_, hd, .map hlim hps⟩) ih2
  | tag hd _ _ ih1 ih2 =>
    obtain ⟨f1, ys, ih1⟩ := ih1
    obtain ⟨f2, xs, ih2⟩ := ih2
    obtain ⟨g, y, hy⟩ := decodeItems_one ih1
    exact decodeItems_cons (decode_succ_eq_some.2 ⟨_, hd, .tag hy⟩) ih2

theorem WFL.complete {d n : Nat} {b r : Bytes} (h : WFL d n b r) :
    ∃ xs, ∀ g, 2 * b.length ≤ g → decodeItems g d n b = some (xs, r) := by
  obtain ⟨f, xs, h⟩ := h.decodes
  exact ⟨xs, fun g hg => decodeItems_fuel f d n b xs r h g (by omega)⟩

theorem WFL.decode_one {d : Nat} {b r : Bytes} (h : WFL d 1 b r) :
    ∃ x, ∀ g, 2 * (b.length - r.length) ≤ g + 1 → decode g d b = some (x, r) := by
  obtain ⟨f, xs, h⟩ := h.decodes
  obtain ⟨g, y, hy⟩ := decodeItems_one h
  exact ⟨y, decode_fuel g d b y r hy⟩

/-- `WFL.decode_one` for an item `b` in front of `r`: the form in which a raw pass (`decode`, then `take`) meets it -/
theorem WFL.decode_prefix {d : Nat} {b r : Bytes} (h : WFL d 1 (b ++ r) r) :
    ∃ x, ∀ g, 2 * b.length ≤ g + 1 → decode g d (b ++ r) = some (x, r) := by
  obtain ⟨x, hx⟩ := h.decode_one
  exact ⟨x, fun g hg => hx g (by simpa using hg)⟩

/-- **The structural decoder accepts exactly the well-formed items within the documented limits**, and
leaves the stream right behind the item. -/
theorem decode1_iff_wfl (b r : Bytes) : (∃ v, decode1 b = some (v, r)) ↔ WFL maxDepth 1 b r := by
  constructor
  · rintro ⟨v, h⟩; exact decode_wfl _ _ _ _ _ h
  · intro h
    obtain ⟨x, hx⟩ := h.decode_one
    exact ⟨x, hx _ (by omega)⟩

/-! ### what the encoder's heads open is within the limits -/

theorem WFL.encScalar {d mt n : Nat} {r : Bytes} (hmt : mt = 0 ∨ mt = 1) (hn : n < 18446744073709551616) :
    WFL d 1 (encHead mt n ++ r) r :=
  .scalar (decHead_encHead (by omega) hn) (by omega) .zero

theorem WFL.encStr {d mt : Nat} {c r : Bytes} (hmt : mt = 2 ∨ mt = 3) (hc : c.length < maxLen) :
    WFL d 1 (encHead mt c.length ++ c ++ r) r := by
  rw [List.append_assoc]
  refine .str (decHead_encHead (by omega) (lt_of_lt_maxLen hc)) hmt hc (by simp) ?_
  simpa using WFL.zero

theorem WFL.encArr {d n : Nat} {c r : Bytes} (hd : 1 ≤ d) (hn : n < maxLen) (h : WFL (d - 1) n (c ++ r) r) :
    WFL d 1 (encHead 4 n ++ c ++ r) r := by
  obtain ⟨d, rfl⟩ : ∃ d', d = d' + 1 := ⟨d - 1, by omega⟩
  rw [List.append_assoc]
  exact .arr (decHead_encHead (by omega) (lt_of_lt_maxLen hn)) hn h .zero

theorem WFL.encMap {d n : Nat} {c r : Bytes} (hd : 1 ≤ d) (hn : 2 * n < maxLen) (h : WFL (d - 1) (2 * n) (c ++ r) r) :
    WFL d 1 (encHead 5 n ++ c ++ r) r := by
  obtain ⟨d, rfl⟩ : ∃ d', d = d' + 1 := ⟨d - 1, by omega⟩
  rw [List.append_assoc]
  exact .map (decHead_encHead (by omega) (lt_of_lt_maxLen (by omega))) hn h .zero

theorem WFL.encTag {d n : Nat} {c r : Bytes} (hd : 1 ≤ d) (hn : n < 18446744073709551616) (h : WFL (d - 1) 1 (c ++ r) r) :
    WFL d 1 (encHead 6 n ++ c ++ r) r := by
  obtain ⟨d, rfl⟩ : ∃ d', d = d' + 1 := ⟨d - 1, by omega⟩
  rw [List.append_assoc]
  exact .tag (decHead_encHead (by omega) hn) h .zero

end Fdo.Cbor
