import Fdo.Cbor.Typed
/-
A fragment of the typed codec for which decode ∘ encode = id is *proved* (TypedProofs.lean):
integers, booleans, byte and text strings, fixed-size arrays, slices, array-encoded structs whose
fields are mandatory or (at most one per struct) an `omitempty` byte slice, or the embedded COSE header (label→value maps with labels in encoding order and scalar values), `cbor.Tag[T]`, `cbor.Bstr[T]`,
`cbor.ByteWrap[T]`, `cbor.ByteWrap[[]byte]`, pointers to any of these, `cbor.RawBytes`, `interface{}` values, Go maps with
scalar keys, certificates, timestamps, COSE labels and keys and the devmod modules chunk, nested arbitrarily. `inFragment` decides membership,
so the regenerated wire schemas can be classified by `decide`.
Recursion is on a fuel argument because `Val` nests `List Val` (no structural recursion on it here).
-/
namespace Fdo.Cbor
open Fdo

/-- key types whose encoding needs no recursion (all map keys of the wire types: integers, strings, labels) -/
def Schema.scalarKey : Schema → Bool
  | .uint _ | .int _ | .text | .bytes | .bool | .label => true
  | _ => false

/-- encodings of values of this type never begin with null/undefined (so `*T` can tell nil from a value) -/
def Schema.neverNull : Schema → Bool
  | .uint _ | .int _ | .bool | .bytes | .text | .fixed _ | .slice _ | .struct _ | .tagAny _ | .tagNum _ _ | .bstr _ | .wrap _ | .wrapBytes | .cert | .mapOf _ _ => true
  | _ => false

mutual
/-- number of pointer levels on the deepest path (each costs the decoder one step without consuming a byte) -/
def Schema.ptrDepth : Schema → Nat
  | .slice e => e.ptrDepth
  | .struct fs => fs.ptrDepth
  | .ptr e => e.ptrDepth + 1
  | .mapOf k v => max k.ptrDepth v.ptrDepth
  | .tagAny e => e.ptrDepth
  | .tagNum _ e => e.ptrDepth + 1   -- the wrapper's own raw pass costs a step
  | .bstr e => e.ptrDepth
  | .wrap e => e.ptrDepth
  | .coseKey => 1                   -- raw pass first, like the tag wrappers
  | .chunk => 1
  | _ => 0
def Fields.ptrDepth : Fields → Nat
  | .nil => 0
  | .cons s o fs => max s.ptrDepth fs.ptrDepth + (if o then 1 else 0)   -- an omitted field costs a step too
  | .hdr fs => fs.ptrDepth
end


/-! ### COSE header maps in the fragment: labels in encoding order, scalar values -/

/-- scalar header values: int64, byte string, text string, bool, within the decode limits -/
def AnyVal.scalarOK : AnyVal → Bool
  | .int i => decide (-9223372036854775808 ≤ i ∧ i ≤ 9223372036854775807)
  | .bytes b => decide (b.length < maxLen)
  | .text b => decide (b.length < maxLen)
  | .bool _ => true
  | _ => false


def labelAny : Val → AnyVal
  | .int i => .int i
  | .text b => .text b
  | _ => .null

/-- a COSE label the codec round-trips: a non-zero int64 or a text string (label 0 is written as the
empty text string by `IntOrStr`, a quirk kept out of the fragment) -/
def labelOK : Val → Bool
  | .int i => decide (i ≠ 0 ∧ -9223372036854775808 ≤ i ∧ i ≤ 9223372036854775807)
  | .text b => decide (b.length < maxLen)
  | _ => false


/-- the concatenated encodings of a header map's pairs, in the order given -/
def hdrFlat (m : List (Val × AnyVal)) : Bytes := (m.map fun p => encLabel p.1 ++ encodeAny p.2).flatten

/-- labels valid, values scalars -/
def hdrElemsOK (m : List (Val × AnyVal)) : Bool := m.all fun p => labelOK p.1 && p.2.scalarOK

/-- labels in strictly ascending bytewise order of their encodings (the order `encHdrMap` writes) -/
def HdrSorted (m : List (Val × AnyVal)) : Prop := m.Pairwise fun a b => bytesLt (encLabel a.1) (encLabel b.1) = true


/-- Bool version of `HdrSorted` -/
def hdrSortedB : List (Val × AnyVal) → Bool
  | [] => true
  | a :: l => l.all (fun b => bytesLt (encLabel a.1) (encLabel b.1)) && hdrSortedB l

/-- a header map the fragment covers -/
def hdrMapOK (m : List (Val × AnyVal)) : Bool :=
  hdrElemsOK m && hdrSortedB m && decide (m.length < maxLen / 2) && decide ((encHdrMap m).length < maxLen)

/-! ### `interface{}` values the codec round-trips -/

/-- map keys in strictly ascending bytewise order of their encodings (the order `encodeMap` writes; any
other order of the same pairs denotes the same Go map) -/
def anySortedB : List (AnyVal × AnyVal) → Bool
  | [] => true
  | a :: l => l.all (fun b => bytesLt (encodeAny a.1) (encodeAny b.1)) && anySortedB l

mutual
/-- `confAnyB d a`: an `any` value the decoder rebuilds from its encoding with `d` container levels
available — int64 range, strings and counts below the limits, map keys of a comparable dynamic type and in
encoding order, tag contents a single item the structural decoder accepts. -/
def confAnyB : Nat → AnyVal → Bool
  | _, .int i => decide (-9223372036854775808 ≤ i ∧ i ≤ 9223372036854775807)
  | _, .bytes b => decide (b.length < maxLen)
  | _, .text b => decide (b.length < maxLen)
  | d, .arr xs => decide (xs.length < maxLen ∧ 1 ≤ d) && confAnyListB (d - 1) xs
  | d, .map ps => decide (ps.length < maxLen / 2 ∧ 1 ≤ d) && confAnyPairsB (d - 1) ps && anySortedB ps
  | d, .tagRaw t raw => decide (t < 18446744073709551616 ∧ 1 ≤ d) &&
      (match decode (2 * raw.length + 1) (d - 1) raw with | some (_, []) => true | _ => false)
  | _, .bool _ => true
  | _, .null => true
def confAnyListB : Nat → List AnyVal → Bool
  | _, [] => true
  | d, x :: xs => confAnyB d x && confAnyListB d xs
def confAnyPairsB : Nat → List (AnyVal × AnyVal) → Bool
  | _, [] => true
  | d, (k, v) :: ps => k.comparable && confAnyB d k && confAnyB d v && confAnyPairsB d ps
end

/-- the `interface{}` element a devmod module name is written as -/
def chunkAny : Val → AnyVal
  | .text t => .text t
  | _ => .null

def chunkIsText : Val → Bool
  | .text _ => true
  | _ => false

/-- the array a `DevmodModulesChunk` is written as: start, count, then the module names -/
def chunkArr (a b : Int) (ms : List Val) : AnyVal := .arr (.int a :: .int b :: ms.map chunkAny)

/-- `cose.Key.UnmarshalCBOR` insists on a key type (label 1) that is neither 0 nor "Reserved" -/
def ktyOK (ps : List (Val × Val)) : Bool :=
  match ps.find? (fun p => p.1.keyEq (.int 1)) with
  | some (_, .any (.int 0)) => false
  | some (_, .any (.text t)) => !(t == "Reserved".toUTF8.toList)
  | some _ => true
  | none => false

mutual
/-- schema is in the proved fragment -/
def Schema.inFragment : Schema → Bool
  | .uint max => decide (max < 18446744073709551616)
  | .int bits => decide (1 ≤ bits ∧ bits ≤ 64)
  | .bool => true
  | .bytes => true
  | .text => true
  | .fixed n => decide (n < maxLen)
  | .slice e => e.inFragment
  | .struct fs => fs.inFragment && decide (fs.slots < maxLen ∧ fs.omittables ≤ 1)
  | .tagAny e => e.inFragment
  | .tagNum n e => e.inFragment && decide (n < 18446744073709551616)
  | .bstr e => e.inFragment
  | .wrap e => e.inFragment
  | .wrapBytes => true
  | .ptr e => e.inFragment && e.neverNull
  | .raw => true
  | .mapOf k v => k.inFragment && k.scalarKey && v.inFragment
  | .cert => true
  | .timestamp => true
  | .label => true
  | .any => true
  | .coseKey => true
  | .chunk => true
  | _ => false
def Fields.inFragment : Fields → Bool
  | .nil => true
  | .cons .bytes true fs => fs.inFragment        -- `omitempty` on a byte slice (the only use in the wire types)
  | .cons s false fs => s.inFragment && fs.inFragment
  | .cons _ true _ => false
  | .hdr fs => fs.inFragment
end


/-- the keys of a Go map value in strictly ascending bytewise order of their encodings (the order `encodeMap`
writes them in; a `Val.map` in any other order denotes the same Go map and is written identically) -/
def mapSortedB (ks : Schema) : List (Val × Val) → Bool
  | [] => true
  | a :: l =>
    l.all (fun b => match encodeS 1 ks a.1, encodeS 1 ks b.1 with
      | some x, some y => bytesLt x y
      | _, _ => false) && mapSortedB ks l

mutual
/-- `wconf g d s v`: the encoding of `v` is one item the *untyped* decoder (`decodeRaw`, used by
Unmarshaler-based wrappers such as the COSE tag types before they decode their content) accepts with `d`
container levels available: nesting of arrays, maps and tags within `d`, byte-string contents below the
length limit. -/
def wconf : Nat → Nat → Schema → Val → Bool
  | 0, _, _, _ => false
  | g+1, d, s, v =>
    match s, v with
    | .uint _, .nat _ => true
    | .int _, .int _ => true
    | .bool, .bool _ => true
    | .bytes, .bytes _ => true
    | .text, .text _ => true
    | .fixed _, .bytes _ => true
    | .slice e, .list vs => decide (1 ≤ d) && wconfList g (d - 1) e vs
    | .struct fs, .strct vs => decide (1 ≤ d) && wconfFields g (d - 1) fs vs
    | .tagAny e, .tag _ x => decide (1 ≤ d) && wconf g (d - 1) e x
    | .tagNum _ e, .tag _ x => decide (1 ≤ d) && wconf g (d - 1) e x
    | .bstr e, x => match encodeS g e x with | some c => decide (c.length < maxLen) | none => false
    | .wrap e, x => match encodeS g e x with | some c => decide (c.length < maxLen) | none => false
    | .wrapBytes, .bytes b => decide (b.length < maxLen)
    | .ptr _, .nilp => true
    | .ptr e, .ref x => wconf g d e x
    | .cert, .cert der => decide (der.length < maxLen)
    | .mapOf ks vs, .map ps => decide (1 ≤ d ∧ 2 * ps.length < maxLen) && wconfPairs g (d - 1) ks vs ps
    | .timestamp, .time z _ => z || decide (1 ≤ d)
    | .label, _ => true
    | .any, .any a => confAnyB d a
    | .coseKey, .map ps => wconf g d (.mapOf .label .any) (.map ps)
    | .chunk, .strct [.int a, .int b, .list ms] => ms.all chunkIsText && confAnyB d (chunkArr a b ms)
    | .raw, .raw b =>
      match decode (2 * b.length + 1) d b with
      | some (_, []) => true
      | _ => false
    | _, _ => false
def wconfList : Nat → Nat → Schema → List Val → Bool
  | 0, _, _, _ => false
  | _+1, _, _, [] => true
  | g+1, d, e, v :: vs => wconf g d e v && wconfList g d e vs
def wconfPairs : Nat → Nat → Schema → Schema → List (Val × Val) → Bool
  | 0, _, _, _, _ => false
  | _+1, _, _, _, [] => true
  | g+1, d, ks, vs, (k, v) :: ps => wconf g d ks k && wconf g d vs v && wconfPairs g d ks vs ps
def wconfFields : Nat → Nat → Fields → List Val → Bool
  | 0, _, _, _ => false
  | _+1, _, .nil, [] => true
  | g+1, d, .cons s _ fs, v :: vs => wconf g d s v && wconfFields g d fs vs
  | g+1, d, .hdr fs, .hdr _ _ :: vs => decide (1 ≤ d) && wconfFields g d fs vs
  | _, _, _, _ => false
end

mutual
/-- `conf g d s v`: the value `v` is one the Go type described by `s` can hold and the library's
limits allow on the wire, when decoded with `d` container levels still available. -/
def conf (ok : CertOracle) : Nat → Nat → Schema → Val → Bool
  | 0, _, _, _ => false
  | g+1, d, s, v =>
    match s, v with
    | .uint max, .nat n => decide (n ≤ max)
    | .int bits, .int i => decide (-(2 ^ (bits - 1) : Int) ≤ i ∧ i < (2 ^ (bits - 1) : Int))
    | .bool, .bool _ => true
    | .bytes, .bytes b => decide (b.length < maxLen)
    | .text, .text b => decide (b.length < maxLen)
    | .fixed n, .bytes b => decide (b.length = n)
    | .slice e, .list vs => decide (1 ≤ d ∧ vs.length < maxLen) && confList ok g (d - 1) e vs
    | .struct fs, .strct vs => decide (1 ≤ d) && confFields ok g (d - 1) fs vs
    | .tagAny e, .tag n x => decide (n < 18446744073709551616) && conf ok g maxDepth e x
    | .tagNum n e, .tag m x => decide (m = n ∧ 1 ≤ d) && conf ok g maxDepth e x && wconf g (d - 1) e x
    | .bstr e, x => conf ok g maxDepth e x
    | .wrap e, x => conf ok g maxDepth e x
    | .wrapBytes, .bytes _ => true
    | .ptr _, .nilp => true
    | .ptr e, .ref x => conf ok g d e x
    | .mapOf ks vs, .map ps => decide (1 ≤ d ∧ ps.length < maxLen / 2) && confPairs ok g (d - 1) ks vs ps && mapSortedB ks ps
    | .cert, .cert der => ok der                       -- the DER string is one x509.ParseCertificate accepts (oracle)
    | .timestamp, .time z u => decide ((z = true → u = 0) ∧ -9223372036854775808 ≤ u ∧ u ≤ 9223372036854775807)
    | .label, l => labelOK l
    | .any, .any a => confAnyB d a
    | .coseKey, .map ps =>
      conf ok g maxDepth (.mapOf .label .any) (.map ps) && wconf g d (.mapOf .label .any) (.map ps) && ktyOK ps
    | .chunk, .strct [.int a, .int b, .list ms] =>
      ms.all chunkIsText && confAnyB d (chunkArr a b ms) && confAnyB maxDepth (chunkArr a b ms)
    | .raw, .raw b =>
      -- cbor.RawBytes holds exactly one well-formed item
      match decode (2 * b.length + 1) d b with
      | some (_, []) => true
      | _ => false
    | _, _ => false
def confList (ok : CertOracle) : Nat → Nat → Schema → List Val → Bool
  | 0, _, _, _ => false
  | _+1, _, _, [] => true
  | g+1, d, e, v :: vs => conf ok g d e v && confList ok g d e vs
def confPairs (ok : CertOracle) : Nat → Nat → Schema → Schema → List (Val × Val) → Bool
  | 0, _, _, _, _ => false
  | _+1, _, _, _, [] => true
  | g+1, d, ks, vs, (k, v) :: ps => conf ok g d ks k && conf ok g d vs v && confPairs ok g d ks vs ps
def confFields (ok : CertOracle) : Nat → Nat → Fields → List Val → Bool
  | 0, _, _, _ => false
  | _+1, _, .nil, [] => true
  | g+1, d, .cons s _ fs, v :: vs => conf ok g d s v && confFields ok g d fs vs
  | g+1, d, .hdr fs, .hdr pm um :: vs => hdrMapOK pm && hdrMapOK um && confFields ok g d fs vs
  | _, _, _, _ => false
end


end Fdo.Cbor
