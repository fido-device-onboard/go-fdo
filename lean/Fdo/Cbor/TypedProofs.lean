import Fdo.Cbor.HdrProofs
/-
decode ∘ encode = id for the typed codec on the fragment of `TypedFrag.lean`, and: a typed encoding is one
item the untyped decoder accepts (which the tag-checking wrappers and `cose.Key` need for their raw pass).
Both go by induction on the encoder's fuel, taking `encodeS` and its helpers apart through `EncS` … `EncM`.
-/
namespace Fdo.Cbor
open Fdo

/-! ### the encoder, one level deep -/

/-- concatenation of encoded pairs in the order given -/
def flatM (es : List (Bytes × Bytes)) : Bytes := (es.map fun p => p.1 ++ p.2).flatten

/-- `encodeS g s v = some b` taken apart arm by arm (`encodeS_inv`) -/
inductive EncS : Nat → Schema → Val → Bytes → Prop
  | uint {g max n} : EncS (g+1) (.uint max) (.nat n) (encHead 0 n)
  | int {g bits i} : EncS (g+1) (.int bits) (.int i) (encodeAny (.int i))
  | bool {g b} : EncS (g+1) .bool (.bool b) [if b then 0xf5 else 0xf4]
  | bytes {g b} : EncS (g+1) .bytes (.bytes b) (encHead 2 b.length ++ b)
  | text {g b} : EncS (g+1) .text (.text b) (encHead 3 b.length ++ b)
  | fixed {g n b} : EncS (g+1) (.fixed n) (.bytes b) (encHead 2 b.length ++ b)
  | slice {g e vs c} : encodeList g e vs = some c → EncS (g+1) (.slice e) (.list vs) (encHead 4 vs.length ++ c)
  | struct {g fs vs n c} : encodeFields g fs vs = some (n, c) → EncS (g+1) (.struct fs) (.strct vs) (encHead 4 n ++ c)
  | nilp {g e} : EncS (g+1) (.ptr e) .nilp [0xf6]
  | ref {g e x b} : encodeS g e x = some b → EncS (g+1) (.ptr e) (.ref x) b
  | any {g a} : EncS (g+1) .any (.any a) (encodeAny a)
  | mapOf {g ks vs ps es} : encodeMapPairs g ks vs ps = some es →
      EncS (g+1) (.mapOf ks vs) (.map ps) (encHead 5 ps.length ++ flatM (sortByKey es))
  | tagAny {g e n x c} : encodeS g e x = some c → EncS (g+1) (.tagAny e) (.tag n x) (encHead 6 n ++ c)
  | tagNum {g m e n x c} : encodeS g e x = some c → EncS (g+1) (.tagNum m e) (.tag n x) (encHead 6 n ++ c)
  | bstr {g e x c} : encodeS g e x = some c → EncS (g+1) (.bstr e) x (encHead 2 c.length ++ c)
  | wrap {g e x c} : encodeS g e x = some c → EncS (g+1) (.wrap e) x (encHead 2 c.length ++ c)
  | wrapBytes {g b} : EncS (g+1) .wrapBytes (.bytes b) (encHead 2 b.length ++ b)
  | raw {g b} : EncS (g+1) .raw (.raw b) (if b.isEmpty then [0x40] else b)
  | viaRaw {g e x b} : encodeS g e x = some b → EncS (g+1) (.viaRaw e) x b
  | label {g l} : EncS (g+1) .label l (encLabel l)
  | cert {g der} : EncS (g+1) .cert (.cert der) (encHead 2 der.length ++ der)
  | certBytes {g b} : EncS (g+1) .cert (.bytes b) (encHead 2 b.length ++ b)
  | time {g z u} : EncS (g+1) .timestamp (.time z u) (if z then [0xf6] else encHead 6 1 ++ encodeAny (.int u))
  | chunk {g a b ms} : EncS (g+1) .chunk (.strct [.int a, .int b, .list ms])
      (encHead 4 (2 + ms.length) ++ encodeAny (.int a) ++ encodeAny (.int b) ++ (ms.map chunkTextEnc).flatten)
  | coseKey {g ps b} : encodeS g (.mapOf .label .any) (.map ps) = some b → EncS (g+1) .coseKey (.map ps) b

theorem encodeS_inv {g : Nat} {s : Schema} {v : Val} {b : Bytes} (h : encodeS g s v = some b) : EncS g s v b := by
  unfold encodeS at h
  split at h
  · cases h
  · split at h
    -- an arm returns a value, hands on to `encodeS`, is an `if` between two values, or matches on a helper's result
    all_goals first
      | (cases h; constructor)
      | (constructor; exact h)
      | (rw [← apply_ite some] at h; cases h; constructor)
      | (split at h <;> first | (cases h; constructor; assumption) | cases h)
      | cases h

inductive EncL : Nat → Schema → List Val → Bytes → Prop
  | nil {g e} : EncL (g+1) e [] []
  | cons {g e v vs a c} : encodeS g e v = some a → encodeList g e vs = some c → EncL (g+1) e (v :: vs) (a ++ c)

theorem encodeList_inv {g : Nat} {e : Schema} {vs : List Val} {b : Bytes} (h : encodeList g e vs = some b) :
    EncL g e vs b := by
  revert h
  fun_cases encodeList g e vs <;> intro h <;> cases h
  · exact .nil
  · exact .cons ‹_› ‹_›

inductive EncM : Nat → Schema → Schema → List (Val × Val) → List (Bytes × Bytes) → Prop
  | nil {g ks vs} : EncM (g+1) ks vs [] []
  | cons {g ks vs k v ps a b es} : encodeS g ks k = some a → encodeS g vs v = some b →
      encodeMapPairs g ks vs ps = some es → EncM (g+1) ks vs ((k, v) :: ps) ((a, b) :: es)

theorem encodeMapPairs_inv {g : Nat} {ks vs : Schema} {ps : List (Val × Val)} {es : List (Bytes × Bytes)}
    (h : encodeMapPairs g ks vs ps = some es) : EncM g ks vs ps es := by
  revert h
  fun_cases encodeMapPairs g ks vs ps <;> intro h <;> cases h
  · exact .nil
  · exact .cons ‹_› ‹_› ‹_›

/-- `n` = array slots written -/
inductive EncF : Nat → Fields → List Val → Nat → Bytes → Prop
  | nil {g} : EncF (g+1) .nil [] 0 []
  | skip {g s o fs v vs n b} : o = true ∧ isEmptyAt s v = true → encodeFields g fs vs = some (n, b) →
      EncF (g+1) (.cons s o fs) (v :: vs) n b
  | cons {g s o fs v vs a n c} : ¬ (o = true ∧ isEmptyAt s v = true) → encodeS g s v = some a →
      encodeFields g fs vs = some (n, c) → EncF (g+1) (.cons s o fs) (v :: vs) (n + 1) (a ++ c)
  | hdr {g fs pm um vs n c} : encodeFields g fs vs = some (n, c) →
      EncF (g+1) (.hdr fs) (.hdr pm um :: vs) (n + 2)
        (encHead 2 (Cose.encProtected pm).length ++ Cose.encProtected pm ++ encHdrMap um ++ c)

theorem encodeFields_inv {g : Nat} {fs : Fields} {vs : List Val} {n : Nat} {b : Bytes}
    (h : encodeFields g fs vs = some (n, b)) : EncF g fs vs n b := by
  have hp : ∀ pm, (if pm.isEmpty = true then [0x40] else encHead 2 (encHdrMap pm).length ++ encHdrMap pm) =
      encHead 2 (Cose.encProtected pm).length ++ Cose.encProtected pm := by
    intro pm; unfold Cose.encProtected; split <;> rfl
  unfold encodeFields at h
  split at h
  · cases h
  · cases h; exact .nil
  · split at h
    · exact .skip ‹_› h
    · split at h <;> cases h; exact .cons ‹_› ‹_› ‹_›
  · split at h <;> cases h; rw [hp]; exact .hdr ‹_›
  · cases h

/-! ### Go maps (`map[K]V`): sorted keys are written in the order given and are pairwise distinct -/

theorem conf_scalarKey (ok : CertOracle) {g d : Nat} {ks : Schema} {k : Val} (hk : ks.scalarKey = true)
    (hc : conf ok g d ks k = true) (a : AnyVal) : k ≠ .any a := by
  rintro rfl
  cases g with
  | zero => simp [conf] at hc
  | succ g => cases ks <;> simp [Schema.scalarKey] at hk <;> simp [conf, labelOK] at hc

/-- one pair read; only an `interface{}` key is checked for comparability -/
theorem decodeMapPairs_succ {ok : CertOracle} {f d n : Nat} {ks vs : Schema} {acc : List (Val × Val)} {bs r1 r2 : Bytes}
    {k v : Val} (hk : ∀ a, k ≠ .any a) (h1 : decodeS ok f d ks bs = some (k, r1)) (h2 : decodeS ok f d vs r1 = some (v, r2)) :
    decodeMapPairs ok (f + 1) d ks vs (n + 1) acc bs = decodeMapPairs ok f d ks vs n (vmapSet acc k v) r2 := by
  simp only [decodeMapPairs, h1, h2]
  cases k <;> first | exact absurd rfl (hk _) | rfl

/-- the encoding `mapSortedB` orders a key by -/
def keyEnc (ks : Schema) (k : Val) : Bytes := (encodeS 1 ks k).getD []

theorem mapSortedB_sound (ks : Schema) (ps : List (Val × Val)) (h : mapSortedB ks ps = true) :
    ps.Pairwise fun a b => bytesLt (keyEnc ks a.1) (keyEnc ks b.1) = true := by
  refine (pairwise_of_all (fun _ _ => rfl) ps h).imp fun {a b} h => ?_
  unfold keyEnc
  split at h
  next x y hx hy => rw [hx, hy]; exact h
  · cases h

/-- a scalar key is encoded without recursion, so with any fuel as with fuel 1 -/
theorem keyEnc_eq {g : Nat} {ks : Schema} {k : Val} {a : Bytes} (hk : ks.scalarKey = true) (h : encodeS g ks k = some a) :
    keyEnc ks k = a := by
  cases encodeS_inv h <;> first | rfl | cases hk

theorem encodeMapPairs_keys {ks vs : Schema} (hk : ks.scalarKey = true) : ∀ {g : Nat} {ps : List (Val × Val)}
    {es : List (Bytes × Bytes)}, encodeMapPairs g ks vs ps = some es → es.map (·.1) = ps.map fun p => keyEnc ks p.1
  | 0, _, _, h => nomatch encodeMapPairs_inv h
  | g+1, _, _, h => by
    cases encodeMapPairs_inv h with
    | nil => rfl
    | cons h1 _ h3 => simp [keyEnc_eq hk h1, encodeMapPairs_keys hk h3]

theorem mapSorted_facts {ks vs : Schema} {g : Nat} {ps : List (Val × Val)} {es : List (Bytes × Bytes)}
    (hk : ks.scalarKey = true) (h : encodeMapPairs g ks vs ps = some es) (hs : mapSortedB ks ps = true) :
    sortByKey es = es ∧ ps.Pairwise fun a b => a.1.keyEq b.1 = false := by
  have hp := mapSortedB_sound ks ps hs
  refine ⟨sortByKey_sorted ?_, distinct_of_sorted (fun _ _ h => congrArg (keyEnc ks) (keyEq_eq _ _ h)) hp⟩
  have : (ps.map fun p => keyEnc ks p.1).Pairwise fun x y => bytesLt x y = true := List.pairwise_map.mpr hp
  rwa [← encodeMapPairs_keys hk h, List.pairwise_map] at this

theorem flatM_cons (a b : Bytes) (es : List (Bytes × Bytes)) : flatM ((a, b) :: es) = a ++ (b ++ flatM es) := by
  simp [flatM]

theorem encodeS_notNull {g : Nat} {s : Schema} {v : Val} {b : Bytes} (r : Bytes) (hn : s.neverNull = true)
    (henc : encodeS g s v = some b) : isNullHead (b ++ r) = none := by
  cases encodeS_inv henc <;> simp only [Schema.neverNull, Bool.false_eq_true] at hn
  case int => simp only [encodeAny]; split <;> exact isNullHead_encHead _ _ (by decide)
  case bool b => cases b <;> simp [isNullHead_cons]
  all_goals (try rw [List.append_assoc]); exact isNullHead_encHead _ _ (by decide)

theorem Fields.inFragment_cons {s : Schema} {o : Bool} {fs : Fields} (h : (Fields.cons s o fs).inFragment = true) :
    s.inFragment = true ∧ fs.inFragment = true ∧ (o = true → s = .bytes) := by
  unfold Fields.inFragment at h
  split at h <;> simp_all [Schema.inFragment]

theorem encodeFields_slots : ∀ {g : Nat} {fs : Fields} {vs : List Val} {n : Nat} {b : Bytes},
    encodeFields g fs vs = some (n, b) → n ≤ fs.slots
  | 0, _, _, _, _, h => nomatch encodeFields_inv h
  | g+1, _, _, _, _, h => by
    cases encodeFields_inv h with
    | nil => exact Nat.le_refl _
    | skip _ h2 => exact Nat.le_succ_of_le (encodeFields_slots h2)
    | cons _ _ h2 => exact Nat.succ_le_succ (encodeFields_slots h2)
    | hdr h2 => exact Nat.add_le_add_right (encodeFields_slots h2) 2

theorem encodeS_pos (ok : CertOracle) : ∀ (g : Nat) {s : Schema} {v : Val} {b : Bytes} {d : Nat}, s.inFragment = true →
    conf ok g d s v = true → encodeS g s v = some b → 1 ≤ b.length
  | 0, _, _, _, _, _, _, henc => nomatch encodeS_inv henc
  | g+1, s, v, b, d, hs, hconf, henc => by
    cases encodeS_inv henc with
    | int | any => exact encodeAny_len_pos _
    | ref h =>
      simp only [Schema.inFragment, conf, Bool.and_eq_true] at hs hconf
      exact encodeS_pos ok g hs.1 hconf h
    | coseKey h =>
      simp only [conf, Bool.and_eq_true] at hconf
      exact encodeS_pos ok g (by decide) hconf.1.1 h
    | viaRaw => simp [Schema.inFragment] at hs
    | label => exact encLabel_len_pos _ (by simpa [conf] using hconf)
    | raw => rename_i rb; cases rb <;> simp
    | time => rename_i z u; cases z <;> simp [encHead_eq]
    | _ => simp only [List.length_append, List.length_cons, List.length_nil, encHead_eq]; omega

/-! ### typed encodings are single items within the limits for the untyped decoder -/

/-- the statements proved together by induction on the encoder's fuel: what `encodeS` and its helpers return is
one item (`n` items) within the limits, at most `dr` containers deep -/
structure EncWfl (ok : CertOracle) (g : Nat) : Prop where
  schema : ∀ {s : Schema} {v : Val} {b : Bytes} {dc dr : Nat}, s.inFragment = true → encodeS g s v = some b →
    conf ok g dc s v = true → wconf g dr s v = true → ∀ r, WFL dr 1 (b ++ r) r
  list : ∀ {e : Schema} {vs : List Val} {b : Bytes} {dc dr : Nat}, e.inFragment = true → encodeList g e vs = some b →
    confList ok g dc e vs = true → wconfList g dr e vs = true → ∀ r, WFL dr vs.length (b ++ r) r
  fields : ∀ {fs : Fields} {vs : List Val} {n : Nat} {b : Bytes} {dc dr : Nat}, fs.inFragment = true →
    encodeFields g fs vs = some (n, b) → confFields ok g dc fs vs = true → wconfFields g dr fs vs = true →
    ∀ r, WFL dr n (b ++ r) r
  pairs : ∀ {ks vs : Schema} {ps : List (Val × Val)} {es : List (Bytes × Bytes)} {dc dr : Nat}, ks.inFragment = true →
    vs.inFragment = true → encodeMapPairs g ks vs ps = some es → confPairs ok g dc ks vs ps = true →
    wconfPairs g dr ks vs ps = true → ∀ r, WFL dr (2 * ps.length) (flatM es ++ r) r

theorem encWfl_step {ok : CertOracle} {g : Nat} (ih : EncWfl ok g) : EncWfl ok (g + 1) where
  schema := by
    intro s v b dc dr hs henc hconf hw r
    cases encodeS_inv henc with
    | uint =>
      simp only [Schema.inFragment, conf, decide_eq_true_eq] at hs hconf
      exact .encScalar (.inl rfl) (by omega)
    | int =>
      simp only [Schema.inFragment, conf, decide_eq_true_eq] at hs hconf
      exact encodeAny_wfl (by simpa [confAnyB] using int64_of_bits hs hconf) r
    | bool =>
      rename_i bv
      cases bv
      · exact encodeAny_wfl (a := .bool false) rfl r
      · exact encodeAny_wfl (a := .bool true) rfl r
    | bytes => exact .encStr (.inl rfl) (by simpa [conf] using hconf)
    | text => exact .encStr (.inr rfl) (by simpa [conf] using hconf)
    | fixed =>
      simp only [Schema.inFragment, conf, decide_eq_true_eq] at hs hconf
      exact .encStr (.inl rfl) (hconf ▸ hs)
    | wrapBytes | cert => exact .encStr (.inl rfl) (by simpa [wconf] using hw)
    | certBytes => simp [conf] at hconf
    | slice h =>
      simp only [Schema.inFragment, conf, wconf, Bool.and_eq_true, decide_eq_true_eq] at hs hconf hw
      exact .encArr hw.1 hconf.1.2 (ih.list hs h hconf.2 hw.2 r)
    | struct h =>
      simp only [Schema.inFragment, conf, wconf, Bool.and_eq_true, decide_eq_true_eq] at hs hconf hw
      exact .encArr hw.1 (Nat.lt_of_le_of_lt (encodeFields_slots h) hs.2.1) (ih.fields hs.1 h hconf.2 hw.2 r)
    | nilp => exact encodeAny_wfl (a := .null) rfl r
    | ref h =>
      simp only [Schema.inFragment, conf, wconf, Bool.and_eq_true] at hs hconf hw
      exact ih.schema hs.1 h hconf hw r
    | any => exact encodeAny_wfl (by simpa [wconf] using hw) r
    | mapOf h =>
      simp only [Schema.inFragment, conf, wconf, Bool.and_eq_true, decide_eq_true_eq] at hs hconf hw
      rw [(mapSorted_facts hs.1.2 h hconf.2).1]
      exact .encMap hw.1.1 hw.1.2 (ih.pairs hs.1.1 hs.2 h hconf.1.2 hw.2 r)
    | tagAny h =>
      simp only [Schema.inFragment, conf, wconf, Bool.and_eq_true, decide_eq_true_eq] at hs hconf hw
      exact .encTag hw.1 hconf.1 (ih.schema hs h hconf.2 hw.2 r)
    | tagNum h =>
      simp only [Schema.inFragment, conf, wconf, Bool.and_eq_true, decide_eq_true_eq] at hs hconf hw
      exact .encTag hw.1 (hconf.1.1.1 ▸ hs.2) (ih.schema hs.1 h hconf.1.2 hw.2 r)
    | bstr h | wrap h => exact .encStr (.inl rfl) (by simpa [wconf, h] using hw)
    | raw =>
      simp only [wconf] at hw
      split at hw <;> try cases hw
      rename_i x hx
      rw [(raw_accepted hx).1]
      exact decode_wfl _ _ _ _ _ ((raw_accepted hx).2 _ r (Nat.le_succ _))
    | viaRaw => simp [Schema.inFragment] at hs
    | label =>
      obtain ⟨hke, hks, _⟩ := label_facts _ (by simpa [conf] using hconf)
      exact hke ▸ encodeAny_wfl (confAnyB_scalar hks dr) r
    | time =>
      rename_i z u
      simp only [conf, wconf, decide_eq_true_eq] at hconf hw
      cases z with
      | true => exact encodeAny_wfl (a := .null) rfl r
      | false =>
        exact .encTag (by simpa using hw) (by omega) (encodeAny_wfl (by simpa [confAnyB] using hconf.2) r)
    | chunk =>
      simp only [wconf, Bool.and_eq_true] at hw
      rw [chunk_bytes _ _ _ hw.1]
      exact encodeAny_wfl hw.2 r
    | coseKey h =>
      simp only [conf, wconf, Bool.and_eq_true] at hconf hw
      exact ih.schema (by decide) h hconf.1.1 hw r
  list := by
    intro e vs b dc dr he henc hconf hw r
    cases encodeList_inv henc with
    | nil => exact .zero
    | cons h1 h2 =>
      simp only [confList, wconfList, Bool.and_eq_true] at hconf hw
      rw [List.append_assoc, List.length_cons, Nat.add_comm]
      exact (ih.schema he h1 hconf.1 hw.1 _).append (ih.list he h2 hconf.2 hw.2 r)
  fields := by
    intro fs vs n b dc dr hfs henc hconf hw r
    cases encodeFields_inv henc with
    | nil => exact .zero
    | skip _ h2 =>
      simp only [confFields, wconfFields, Bool.and_eq_true] at hconf hw
      exact ih.fields (Fields.inFragment_cons hfs).2.1 h2 hconf.2 hw.2 r
    | cons _ h1 h2 =>
      simp only [confFields, wconfFields, Bool.and_eq_true] at hconf hw
      have hfs := Fields.inFragment_cons hfs
      rw [List.append_assoc, Nat.add_comm]
      exact (ih.schema hfs.1 h1 hconf.1 hw.1 _).append (ih.fields hfs.2.1 h2 hconf.2 hw.2 r)
    | @hdr _ _ _ _ _ n _ h2 =>
      simp only [Fields.inFragment, confFields, wconfFields, Bool.and_eq_true, decide_eq_true_eq] at hfs hconf hw
      rw [List.append_assoc, List.append_assoc, show n + 2 = 1 + (1 + n) by omega]
      exact (WFL.encStr (.inl rfl) (encProtected_len hconf.1.1)).append
        ((encHdrMap_wfl hconf.1.2 hw.1 _).append (ih.fields hfs h2 hconf.2 hw.2 r))
  pairs := by
    intro ks vs ps es dc dr hks hvs henc hconf hw r
    cases encodeMapPairs_inv henc with
    | nil => exact .zero
    | @cons _ _ _ _ _ ps _ _ _ h1 h2 h3 =>
      simp only [confPairs, wconfPairs, Bool.and_eq_true] at hconf hw
      rw [flatM_cons, List.append_assoc, List.append_assoc, List.length_cons,
        show 2 * (ps.length + 1) = 1 + (1 + 2 * ps.length) by omega]
      exact (ih.schema hks h1 hconf.1.1 hw.1.1 _).append ((ih.schema hvs h2 hconf.1.2 hw.1.2 _).append
        (ih.pairs hks hvs h3 hconf.2 hw.2 r))

theorem encWfl (ok : CertOracle) : ∀ g, EncWfl ok g
  | 0 => ⟨fun _ h => (nomatch encodeS_inv h), fun _ h => (nomatch encodeList_inv h),
      fun _ h => (nomatch encodeFields_inv h), fun _ _ h => (nomatch encodeMapPairs_inv h)⟩
  | g+1 => encWfl_step (encWfl ok g)

/-! ### the round trip -/

/-- Behind a head of `h` bytes, and one step of the decoder later, the `c` bytes of content still have a length
that fits a head and the fuel their decoder asks for: `+ 1` for one item, `+ 2` for a sequence of items. -/
theorem behind_head {h c k f : Nat} (hp : 1 ≤ h) (hb : h + c < 18446744073709551616 ∧ 2 * (h + c) + 1 + k ≤ f + 1) :
    (c < 18446744073709551616 ∧ 2 * c + 1 + k ≤ f) ∧ c < 18446744073709551616 ∧ 2 * c + 2 + k ≤ f := by
  omega

/-- The same for the first item (`a` bytes, at least one) of a sequence and the rest of it. -/
theorem first_rest {a c k f : Nat} (hp : 1 ≤ a) (hb : a + c < 18446744073709551616 ∧ 2 * (a + c) + 2 + k ≤ f + 1) :
    (a < 18446744073709551616 ∧ 2 * a + 1 + k ≤ f) ∧ c < 18446744073709551616 ∧ 2 * c + 2 + k ≤ f := by
  omega

/-- an empty `omitempty` byte slice is `[]byte{}` or nil, which the model does not tell apart -/
theorem empty_bytes {ok : CertOracle} {g d : Nat} {v : Val} (hc : conf ok g d .bytes v = true)
    (he : isEmptyAt .bytes v = true) : v = .bytes [] := by
  cases g with
  | zero => simp [conf] at hc
  | succ g =>
    cases v with
    | bytes b => rw [List.isEmpty_iff.mp he]
    | _ => simp [conf] at hc

/-- The statements proved together by induction on the encoder's fuel; the one arithmetic hypothesis of each says
that the length fits a head and the fuel covers the bytes. In `fields`, `skip` says that the one
omittable field was left out; `Fields.wire` counts the array slots written in either case. -/
structure RoundTrip (ok : CertOracle) (g : Nat) : Prop where
  schema : ∀ {s : Schema} {v : Val} {b : Bytes} (r : Bytes) (d f : Nat), s.inFragment = true → encodeS g s v = some b →
    conf ok g d s v = true → b.length < 18446744073709551616 ∧ 2 * b.length + 1 + s.ptrDepth ≤ f →
    decodeS ok f d s (b ++ r) = some (v, r)
  list : ∀ {e : Schema} {vs : List Val} {b : Bytes} (r : Bytes) (d f : Nat), e.inFragment = true →
    encodeList g e vs = some b → confList ok g d e vs = true →
    b.length < 18446744073709551616 ∧ 2 * b.length + 2 + e.ptrDepth ≤ f → decodeElems ok f d e vs.length (b ++ r) = some (vs, r)
  fields : ∀ {fs : Fields} {vs : List Val} {n : Nat} {b : Bytes} (r : Bytes) (d f : Nat), fs.inFragment = true →
    fs.omittables ≤ 1 → encodeFields g fs vs = some (n, b) → confFields ok g d fs vs = true →
    b.length < 18446744073709551616 ∧ 2 * b.length + 2 + fs.ptrDepth ≤ f →
    ∃ skip, decodeFields ok f d fs skip (b ++ r) = some (vs, r) ∧ n = fs.wire skip ∧ (skip = true → 1 ≤ fs.omittables)
  pairs : ∀ {ks vs : Schema} {ps : List (Val × Val)} {es : List (Bytes × Bytes)} (r : Bytes) (d f : Nat)
    (acc : List (Val × Val)), ks.inFragment = true → ks.scalarKey = true → vs.inFragment = true →
    encodeMapPairs g ks vs ps = some es → confPairs ok g d ks vs ps = true →
    (flatM es).length < 18446744073709551616 ∧ 2 * (flatM es).length + 2 + max ks.ptrDepth vs.ptrDepth ≤ f →
    (acc ++ ps).Pairwise (fun a b => a.1.keyEq b.1 = false) →
    decodeMapPairs ok f d ks vs ps.length acc (flatM es ++ r) = some (acc ++ ps, r)

theorem roundTrip_step {ok : CertOracle} {g : Nat} (ih : RoundTrip ok g) : RoundTrip ok (g + 1) where
  schema := by
    -- `decodeS` runs with fuel `F = f + 1`, so what it calls runs with `f`
    intro s v b r d F hs henc hconf hb
    obtain ⟨f, rfl⟩ : ∃ f, F = f + 1 := ⟨F - 1, by omega⟩
    cases encodeS_inv henc with
    | @uint _ _ n =>
      simp only [Schema.inFragment, conf, decide_eq_true_eq] at hs hconf
      simp only [decodeS, decHead_encHead (mt := 0) (n := n) (r := r) (by decide) (by omega)]
      simp [hconf]
    | int =>
      simp only [Schema.inFragment, conf, decide_eq_true_eq] at hs hconf
      exact decodeS_int ok r f d hs hconf
    | bool => rename_i bv; cases bv <;> simp [decodeS, decHead]
    | bytes => exact decodeS_bytes ok r f d (by simpa [conf] using hconf)
    | text => exact decodeS_text ok r f d (by simpa [conf] using hconf)
    | @fixed _ _ bb =>
      simp only [Schema.inFragment, conf, decide_eq_true_eq] at hs hconf
      simp only [List.append_assoc, decodeS,
        decHead_encHead (mt := 2) (n := bb.length) (r := bb ++ r) (by decide) (lt_of_lt_maxLen (hconf ▸ hs))]
      -- as in `decodeS_int`: `simp` leaves the decoder's guard (`bb.length < maxLen` here, `n < maxLen ∧ ¬ d = 0`
      -- for the containers below) and `omega` proves it from `conf`
      simp [hconf]; omega
    | @wrapBytes _ bb =>
      simp only [List.length_append] at hb
      simp [decodeS, unwrapBytes_encHead (bb ++ r) (Nat.lt_of_le_of_lt (Nat.le_add_left _ _) hb.1)]
    | @cert _ der =>
      simp only [List.length_append, conf] at hb hconf
      simp [decodeS, unwrapBytes_encHead (der ++ r) (Nat.lt_of_le_of_lt (Nat.le_add_left _ _) hb.1), hconf]
    | certBytes => simp [conf] at hconf
    | @slice _ e vs c h =>
      simp only [Schema.inFragment, Schema.ptrDepth, conf, Bool.and_eq_true, decide_eq_true_eq, List.length_append]
        at hs hb hconf
      simp only [List.append_assoc, decodeS,
        ih.list r (d - 1) f hs h hconf.2 (behind_head (encHead_len_pos 4 vs.length) hb).2,
        decHead_encHead (mt := 4) (n := vs.length) (r := c ++ r) (by decide) (lt_of_lt_maxLen hconf.1.2)]
      simp; omega
    | @struct _ fs vs n c h =>
      simp only [Schema.inFragment, Schema.ptrDepth, conf, Bool.and_eq_true, decide_eq_true_eq, List.length_append]
        at hs hb hconf
      have hn : n < maxLen := Nat.lt_of_le_of_lt (encodeFields_slots h) hs.2.1
      obtain ⟨skip, d1, rfl, hsk⟩ := ih.fields r (d - 1) f hs.1 hs.2.2 h hconf.2 (behind_head (encHead_len_pos 4 n) hb).2
      simp only [List.append_assoc, decodeS,
        decHead_encHead (mt := 4) (n := fs.wire skip) (r := c ++ r) (by decide) (lt_of_lt_maxLen hn)]
      cases skip with
      | false => simp [Fields.wire_false, d1, show ¬ (fs.slots ≥ maxLen ∨ d = 0) by omega]
      | true =>
        -- one slot short: the array is accepted because exactly one field is omittable
        have h1 := Fields.wire_true fs (hsk rfl)
        simp [show ¬ (fs.wire true ≥ maxLen ∨ d = 0) by omega, show ¬ fs.wire true = fs.slots by omega,
          show fs.omittables = 1 by have := hsk rfl; omega, h1, d1]
    | nilp => simp [decodeS, isNullHead, decHead]
    | ref h =>
      simp only [Schema.inFragment, Schema.ptrDepth, conf, Bool.and_eq_true] at hs hb hconf
      simp only [decodeS, encodeS_notNull r hs.2 h, ih.schema r d f hs.1 h hconf ⟨hb.1, Nat.le_of_succ_le_succ hb.2⟩]
    | @any _ a =>
      simp only [conf, Schema.ptrDepth] at hconf hb
      simp only [decodeS, decodeAny_encodeAny a r d f hconf (by omega)]
    | @mapOf _ ks vs ps es h =>
      simp only [Schema.inFragment, Schema.ptrDepth, conf, Bool.and_eq_true, decide_eq_true_eq] at hs hb hconf
      obtain ⟨hsort, hdist⟩ := mapSorted_facts hs.1.2 h hconf.2
      rw [hsort] at hb ⊢
      simp only [List.length_append] at hb
      have hn : ps.length < maxLen := by have := hconf.1.1.2; omega
      simp only [List.append_assoc, decodeS,
        ih.pairs r (d - 1) f [] hs.1.1 hs.1.2 hs.2 h hconf.1.2 (behind_head (encHead_len_pos 5 ps.length) hb).2 hdist,
        decHead_encHead (mt := 5) (n := ps.length) (r := flatM es ++ r) (by decide) (lt_of_lt_maxLen hn)]
      simp [show ¬ (ps.length ≥ maxLen / 2 ∨ d = 0) by omega]
    | @tagAny _ _ n _ _ h =>
      simp only [Schema.inFragment, Schema.ptrDepth, conf, Bool.and_eq_true, decide_eq_true_eq, List.length_append]
        at hs hb hconf
      exact decodeS_tagAny ok d hconf.1 (ih.schema r maxDepth f hs h hconf.2 (behind_head (encHead_len_pos 6 n) hb).1)
    | @tagNum _ _ e n _ c h =>
      simp only [Schema.inFragment, Schema.ptrDepth, conf, Bool.and_eq_true, decide_eq_true_eq, List.length_append]
        at hs hb hconf
      obtain ⟨⟨⟨rfl, hd⟩, hce⟩, hwe⟩ := hconf
      have hp := encHead_len_pos 6 n
      -- Fuel `f' + 2`: the raw pass `decode (f' + 1)` delimits the item, `decodeS (f' + 1) (.tagAny e)` reads exactly
      -- those bytes, and the content behind the tag head is decoded with `f'`.
      obtain ⟨f', rfl⟩ : ∃ f', f = f' + 1 := ⟨f - 1, by omega⟩
      have hcont : c.length < 18446744073709551616 ∧ 2 * c.length + 1 + e.ptrDepth ≤ f' :=
        (behind_head hp ⟨hb.1, Nat.le_of_succ_le_succ hb.2⟩).1
      obtain ⟨y, hraw⟩ := (WFL.encTag hd hs.2 ((encWfl ok g).schema hs.1 h hce hwe r)).decode_prefix
      have htyped := decodeS_tagAny ok maxDepth hs.2 (ih.schema [] maxDepth f' hs.1 h hce hcont)
      simp only [List.append_nil] at htyped
      simp only [decodeS, hraw (f' + 1) (by simp only [List.length_append]; omega), take_prefix, htyped, if_true]
    | @bstr _ e _ c h | @wrap _ e _ c h =>
      simp only [Schema.inFragment, Schema.ptrDepth, List.length_append] at hs hb
      have hc := (behind_head (encHead_len_pos 2 c.length) hb).1
      have hin := ih.schema [] maxDepth f hs h (by simpa [conf] using hconf) hc
      exact decodeS_bstr ok (e := e) d r (by simp) hc.1 (by simpa using hin)
    | raw =>
      simp only [conf] at hconf
      split at hconf <;> try cases hconf
      rename_i x hx
      rw [(raw_accepted hx).1, if_neg Bool.false_ne_true] at hb ⊢
      simp [decodeS, (raw_accepted hx).2 f r (by omega)]
    | viaRaw => simp [Schema.inFragment] at hs
    | label =>
      obtain ⟨hke, hks, hkl⟩ := label_facts _ (by simpa [conf] using hconf)
      rw [hke] at hb ⊢
      obtain ⟨⟨x, d1⟩, a1⟩ := scalar_passes hks r f d (by omega)
      simp only [decodeS, d1, take_prefix, a1, hkl]
    | @time _ z u =>
      simp only [conf, decide_eq_true_eq] at hconf
      cases z with
      | true => simp [decodeS, decHead, hconf.1 rfl]
      | false =>
        simp only [Bool.false_eq_true, if_false, List.length_append] at hb ⊢
        have := encHead_len_pos 6 1
        -- fuel `f' + 2`: the tag head is read with `f' + 1`, the int64 behind it by `decodeS (f' + 1) (.int 64)`
        obtain ⟨f', rfl⟩ : ∃ f', f = f' + 1 := ⟨f - 1, by omega⟩
        simp only [List.append_assoc, decodeS, decodeS_int ok (bits := 64) r f' maxDepth (by decide) ⟨hconf.2.1, by omega⟩,
          decHead_encHead (mt := 6) (n := 1) (r := encodeAny (.int u) ++ r) (by decide) (by decide)]
        simp [headAi]
    | @chunk _ a b ms =>
      simp only [Schema.ptrDepth, conf, Bool.and_eq_true] at hb hconf
      obtain ⟨⟨htxt, hcd⟩, hcm⟩ := hconf
      rw [chunk_bytes a b ms htxt] at hb ⊢
      unfold chunkArr at hb hcd hcm ⊢
      -- Fuel `f' + 2`: the raw pass `decode (f' + 1)` delimits the array, which `decodeS (f' + 1) (.slice .any)` then
      -- reads with a fresh nesting budget (hence `conf` asks for `confAnyB` at `d` and at `maxDepth`).
      obtain ⟨f', rfl⟩ : ∃ f', f = f' + 1 := ⟨f - 1, by omega⟩
      obtain ⟨y, hraw⟩ := (encodeAny_wfl hcd r).decode_prefix
      have htyped := decodeS_slice_any ok _ [] maxDepth (f' + 1) hcm (by omega)
      simp only [List.append_nil, List.map_cons] at htyped
      simp only [decodeS, hraw (f' + 1) (by omega), take_prefix, htyped, chunk_texts_back ms htxt, if_true]
    | @coseKey _ ps b h =>
      simp only [Schema.ptrDepth, conf, Bool.and_eq_true] at hb hconf
      obtain ⟨⟨hcm, hwm⟩, hkty⟩ := hconf
      -- Fuel `f + 1`: the raw pass `decode f` delimits the map, `decodeS f (.mapOf .label .any)` reads exactly those
      -- bytes (`wconf … d` is what the first needs, `conf … maxDepth` the second).
      obtain ⟨y, hraw⟩ := ((encWfl ok g).schema (by decide) h hcm hwm r).decode_prefix
      have htyped := ih.schema [] maxDepth f (by decide) h hcm ⟨hb.1, by simp only [Schema.ptrDepth]; omega⟩
      simp only [List.append_nil] at htyped
      simp only [decodeS, hraw f (by omega), take_prefix, htyped]
      unfold ktyOK at hkty
      split at hkty <;> simp_all
  list := by
    intro e vs b r d F he henc hconf hb
    obtain ⟨f, rfl⟩ : ∃ f, F = f + 1 := ⟨F - 1, by omega⟩
    cases encodeList_inv henc with
    | nil => simp [decodeElems]
    | cons h1 h2 =>
      simp only [confList, Bool.and_eq_true, List.length_append] at hconf hb
      obtain ⟨hb1, hb2⟩ := first_rest (encodeS_pos ok g he hconf.1 h1) hb
      simp only [List.length_cons, decodeElems, List.append_assoc, ih.schema _ d f he h1 hconf.1 hb1, ih.list r d f he h2 hconf.2 hb2]
  fields := by
    intro fs vs n b r d F hfs hom henc hconf hb
    obtain ⟨f, rfl⟩ : ∃ f, F = f + 1 := ⟨F - 1, by omega⟩
    cases encodeFields_inv henc with
    | nil => exact ⟨false, by simp [decodeFields], rfl, nofun⟩
    | @skip _ s o fs' v vs _ _ hsk h2 =>
      -- the one `omitempty` field, a byte slice, is empty and left out
      obtain ⟨-, hfs', hbytes⟩ := Fields.inFragment_cons hfs
      obtain ⟨rfl, hv⟩ := hsk
      obtain rfl := hbytes rfl
      simp only [confFields, Bool.and_eq_true, Fields.omittables, Fields.ptrDepth, if_true] at hconf hom hb
      obtain rfl := empty_bytes hconf.1 hv
      obtain ⟨skip, d2, rfl, hk⟩ := ih.fields r d f hfs' (by omega) h2 hconf.2 (by omega)
      cases skip with
      | true => have := hk rfl; omega
      | false => exact ⟨true, by simp [decodeFields, d2, zeroVal], rfl, fun _ => Nat.le_add_left 1 _⟩
    | @cons _ s o fs' v vs _ _ c hsk h1 h2 =>
      obtain ⟨hs, hfs', -⟩ := Fields.inFragment_cons hfs
      simp only [confFields, Bool.and_eq_true, Fields.omittables, Fields.ptrDepth, List.length_append] at hconf hom hb
      have := encodeS_pos ok g hs hconf.1 h1
      have d1 := ih.schema (c ++ r) d f hs h1 hconf.1 (by omega)
      obtain ⟨skip, d2, rfl, hk⟩ := ih.fields r d f hfs' (by omega) h2 hconf.2 (by omega)
      -- had the omittable field been skipped further on, this one could not be omittable too
      have hno : ¬ (o = true ∧ skip = true) := by rintro ⟨rfl, rfl⟩; have := hk rfl; simp only [if_true] at hom; omega
      refine ⟨skip, ?_, by rw [Fields.wire, if_neg hno], fun h => Nat.le_trans (hk h) (Nat.le_add_right _ _)⟩
      simp only [decodeFields, hno, if_false, List.append_assoc, d1, d2]
    | @hdr _ fs' pm um vs _ c h2 =>
      simp only [Fields.inFragment, confFields, Bool.and_eq_true, Fields.omittables, Fields.ptrDepth, List.length_append]
        at hfs hconf hom hb
      have := encHead_len_pos 2 (Cose.encProtected pm).length
      -- Fuel `f' + 2`: `decodeFields` reads the protected bucket with `decodeS (f' + 1) .bytes` and both maps and
      -- the remaining fields with `f' + 1`.
      obtain ⟨f', rfl⟩ : ∃ f', f = f' + 1 := ⟨f - 1, by omega⟩
      obtain ⟨skip, d2, rfl, hk⟩ := ih.fields r d (f' + 1) hfs hom h2 hconf.2 (by omega)
      refine ⟨skip, ?_, rfl, hk⟩
      have dp := decodeS_bytes ok (encHdrMap um ++ (c ++ r)) f' maxDepth (encProtected_len hconf.1.1)
      rw [List.append_assoc] at dp
      simp only [decodeFields, List.append_assoc, dp,
        decodeHdrMap_rt hconf.1.2 (c ++ r) (F := f' + 1) (D := maxDepth) (by decide) (by omega), d2]
      -- the bucket is empty for an empty map and holds the map otherwise
      rcases encProtected_rt hconf.1.1 (f := f' + 1) (by omega) with rfl | ⟨h1, h2⟩
      · rfl
      · simp only [h1, h2, Bool.false_eq_true, if_false]
  pairs := by
    intro ks vs ps es r d F acc hks hsk hvs henc hconf hb hk
    obtain ⟨f, rfl⟩ : ∃ f, F = f + 1 := ⟨F - 1, by omega⟩
    cases encodeMapPairs_inv henc with
    | nil => simp [decodeMapPairs, flatM]
    | @cons _ _ _ k v ps a b es h1 h2 h3 =>
      simp only [confPairs, Bool.and_eq_true] at hconf
      rw [flatM_cons] at hb ⊢
      simp only [List.length_append] at hb
      have := encodeS_pos ok g hks hconf.1.1 h1
      rw [List.length_cons, List.append_assoc, List.append_assoc,
        decodeMapPairs_succ (conf_scalarKey ok hsk hconf.1.1) (ih.schema _ d f hks h1 hconf.1.1 (by omega))
          (ih.schema _ d f hvs h2 hconf.1.2 (by omega)),
        vmapSet_fresh hk, ih.pairs r d f (acc ++ [(k, v)]) hks hsk hvs h3 hconf.2 (by omega) (by simpa using hk)]
      simp

theorem roundTrip (ok : CertOracle) : ∀ g, RoundTrip ok g
  | 0 => ⟨fun _ _ _ _ h => (nomatch encodeS_inv h), fun _ _ _ _ h => (nomatch encodeList_inv h),
      fun _ _ _ _ _ h => (nomatch encodeFields_inv h), fun _ _ _ _ _ _ _ h => (nomatch encodeMapPairs_inv h)⟩
  | g+1 => roundTrip_step (roundTrip ok g)

theorem decodeS_encodeS (ok : CertOracle) (g : Nat) (s : Schema) (v : Val) (b r : Bytes) (d f : Nat)
    (hs : s.inFragment = true) (henc : encodeS g s v = some b) (hconf : conf ok g d s v = true)
    (hlen : b.length < 18446744073709551616) (hf : 2 * b.length + 1 + s.ptrDepth ≤ f) :
    decodeS ok f d s (b ++ r) = some (v, r) :=
  (roundTrip ok g).schema r d f hs henc hconf ⟨hlen, hf⟩

/-- `cbor.Unmarshal(cbor.Marshal(v)) = v` on the fragment. -/
theorem unmarshalS_marshalS (ok : CertOracle) (s : Schema) (v : Val) (b : Bytes)
    (hs : s.inFragment = true) (hp : s.ptrDepth ≤ 63) (henc : marshalS s v = some b) (hconf : conf ok 10000 maxDepth s v = true)
    (hlen : b.length < 18446744073709551616) : unmarshalS ok s b = some v := by
  have := decodeS_encodeS ok 10000 s v b [] maxDepth (2 * b.length + 64) hs henc hconf hlen (by omega)
  simp only [List.append_nil] at this
  simp [unmarshalS, this]

/-- a conforming typed encoding is one item the untyped decoder accepts, i.e. a valid `cbor.RawBytes` -/
theorem encodeS_raw (ok : CertOracle) {g : Nat} {s : Schema} {v : Val} {b : Bytes} {dc dr : Nat}
    (hs : s.inFragment = true) (henc : encodeS g s v = some b) (hconf : conf ok g dc s v = true)
    (hw : wconf g dr s v = true) : ∃ x, decode (2 * b.length + 1) dr b = some (x, []) := by
  obtain ⟨x, hx⟩ := ((encWfl ok g).schema hs henc hconf hw []).decode_one
  exact ⟨x, by simpa using hx (2 * b.length + 1) (by simp; omega)⟩

end Fdo.Cbor
