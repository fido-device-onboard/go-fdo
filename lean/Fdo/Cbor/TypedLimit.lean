import Fdo.Cbor.Reads
/-
Which decode targets enforce the documented length limit on the head they are given.
-/
namespace Fdo.Cbor
open Fdo

/-- targets that look at the length their head declares through `decodeLen` / the explicit checks of
`decodeByteSlice`, `decodeArrayToSlice`, `decodeArrayToStruct`, `decodeMap` (or that refuse strings, arrays
and maps altogether). The four targets that read their head through `Decoder.unwrap` — `Bstr[T]`,
`ByteWrap[T]`, `ByteWrap[[]byte]` and the X.509 wrappers — do not compare it with the limit. -/
def Schema.limitChecked : Schema → Bool
  | .ptr e => e.limitChecked
  | .bstr _ | .wrap _ | .wrapBytes | .cert => false
  | _ => true

theorem WFL.head_lim {d : Nat} {b r r0 : Bytes} {mt ai arg : Nat} (h : WFL d 1 b r)
    (hd : decHead b = some (mt, ai, arg, r0)) (hmt : 2 ≤ mt ∧ mt ≤ 5) : arg < maxLen := by
  cases h with
  | scalar hd' hm _ => rw [hd] at hd'; cases hd'; omega
  | str hd' _ hl _ _ | arr hd' hl _ _ => rw [hd] at hd'; cases hd'; exact hl
  | map hd' hl _ _ | tag hd' _ _ => rw [hd] at hd'; cases hd'; omega

theorem Reads.over_limit {α : Type} {dec : Bytes → Option (α × Bytes)} {d : Nat} (h : Reads (WFL d 1) dec) {b r : Bytes}
    {mt ai arg : Nat} (hd : decHead b = some (mt, ai, arg, r)) (hmt : 2 ≤ mt ∧ mt ≤ 5) (harg : arg ≥ maxLen) :
    dec b = Option.none := by
  cases hb : dec b with
  | none => rfl
  | some x => exact absurd ((h.shape (v := x.1) (r := x.2) hb).head_lim hd hmt) (by omega)

/-- **A head declaring the limit or more is refused by every target that checks the limit**, whatever
follows it and however much of it is really there. -/
theorem decodeS_over_limit (ok : CertOracle) : ∀ (f d : Nat) (s : Schema) (b : Bytes) (mt ai arg : Nat) (r : Bytes),
    decHead b = some (mt, ai, arg, r) → 2 ≤ mt ∧ mt ≤ 5 → arg ≥ maxLen → s.limitChecked = true →
    decodeS ok f d s b = none := by
  intro f
  induction f with
  | zero => intros; simp only [decodeS]
  | succ f ih =>
    intro d s b mt ai arg r hd hmt harg hs
    have hraw := (decode_reads f d).over_limit hd hmt harg
    have hany := ((any_reads f).1 d).over_limit hd hmt harg
    have h0 : ¬ mt = 0 := by omega
    have h1 : ¬ mt = 1 := by omega
    have h6 : ¬ mt = 6 := by omega
    have h7 : ¬ mt = 7 := by omega
    have harg2 : arg ≥ maxLen / 2 := by omega
    cases s
    case ptr e =>
      simp only [decodeS, isNullHead, hd, eq_false h7, false_and, if_false]
      rw [ih d e b mt ai arg r hd hmt harg hs]
    case bstr | wrap | wrapBytes | cert => cases hs
    case tagNum | raw | viaRaw | label | chunk | coseKey => simp only [decodeS, hraw]
    case any => simp only [decodeS, hany]
    -- the targets that test the head themselves; `ite_self` where a test on `mt` stays open and both ways refuse
    all_goals
      simp only [decodeS, hd, eq_true harg, eq_true harg2, eq_false h0, eq_false h1, eq_false h6, eq_false h7,
        true_or, false_and, if_true, if_false, ite_self]

end Fdo.Cbor
