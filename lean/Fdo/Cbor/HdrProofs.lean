import Fdo.Cbor.AnyProofs
import Fdo.Cose.Sign1
/-
Round trip of the COSE header maps of the typed codec (`encHdrMap` / `decodeHdrMap`) for maps whose
labels are in bytewise order of their encodings and whose values are scalars. Labels and scalar values are
`interface{}` values, so each key and value is read back by `decodeAny_encodeAny`, and the raw pass that
delimits it is `encodeAny_wfl`.
-/
namespace Fdo.Cbor
open Fdo

theorem confAnyB_scalar {a : AnyVal} (h : a.scalarOK = true) (d : Nat) : confAnyB d a = true := by
  cases a <;> simp_all [AnyVal.scalarOK, confAnyB]

/-! ### labels -/

theorem label_facts (k : Val) (h : labelOK k = true) :
    encLabel k = encodeAny (labelAny k) ∧ (labelAny k).scalarOK = true ∧ labelOfAny (labelAny k) = some k := by
  cases k <;> simp [labelOK] at h
  case int i =>
    refine ⟨?_, by simp [labelAny, AnyVal.scalarOK]; omega, rfl⟩
    simp only [encLabel, labelAny, encodeAny, if_neg h.1]
    by_cases hi : i > 0
    · simp [hi, show i ≥ 0 by omega]
    · simp [hi, show ¬ i ≥ 0 by omega]
  case text b => exact ⟨rfl, by simp [labelAny, AnyVal.scalarOK, h], rfl⟩

theorem encLabel_len_pos (k : Val) (h : labelOK k = true) : 1 ≤ (encLabel k).length :=
  (label_facts k h).1 ▸ encodeAny_len_pos _

theorem keyEq_eq (k1 k2 : Val) (h : k1.keyEq k2 = true) : k1 = k2 := by
  unfold Val.keyEq at h
  split at h
  · rw [eq_of_beq h]
  · rw [eq_of_beq h]
  · rw [eq_of_beq h]
  · rw [eq_of_beq h]
  · rw [eq_of_beq h]
  · cases h

theorem vmapSet_fresh {β : Type} {acc : List (Val × β)} {k : Val} {v : β} {ps : List (Val × β)}
    (h : (acc ++ (k, v) :: ps).Pairwise fun a b => a.1.keyEq b.1 = false) : vmapSet acc k v = acc ++ [(k, v)] := by
  simp [vmapSet, any_keyEq_false h]

/-! ### header maps -/

/-- a scalar written by `encodeAny` (label or value of a header map): the raw pass delimits it, and `any` reads
those bytes back -/
theorem scalar_passes {a : AnyVal} (h : a.scalarOK = true) (r : Bytes) (f d : Nat) (hf : 2 * (encodeAny a).length ≤ f) :
    (∃ x, decode f d (encodeAny a ++ r) = some (x, r)) ∧ decodeAny f maxDepth (encodeAny a) = some (a, []) := by
  obtain ⟨x, hx⟩ := (encodeAny_wfl (confAnyB_scalar h d) r).decode_prefix
  exact ⟨⟨x, hx f (by omega)⟩, by simpa using decodeAny_encodeAny a [] maxDepth f (confAnyB_scalar h _) hf⟩

theorem hdrFlat_cons (k : Val) (v : AnyVal) (m : List (Val × AnyVal)) :
    hdrFlat ((k, v) :: m) = encLabel k ++ (encodeAny v ++ hdrFlat m) := by simp [hdrFlat]

theorem hdrPairs_rt (m : List (Val × AnyVal)) : ∀ (acc : List (Val × AnyVal)) (r : Bytes) (F d : Nat),
    hdrElemsOK m = true → (acc ++ m).Pairwise (fun a b => a.1.keyEq b.1 = false) → 2 * (hdrFlat m).length + 1 ≤ F →
    hdrPairs F d m.length acc (hdrFlat m ++ r) = some (acc ++ m, r) := by
  induction m with
  | nil => intro acc r F d _ _ _; cases F <;> simp [hdrPairs, hdrFlat]
  | cons kv m ih =>
    intro acc r F d hok hk hF
    obtain ⟨k, v⟩ := kv
    obtain ⟨F, rfl⟩ : ∃ F', F = F' + 1 := ⟨F - 1, by omega⟩
    simp only [hdrElemsOK, List.all_cons, Bool.and_eq_true] at hok
    obtain ⟨hke, hks, hkl⟩ := label_facts k hok.1.1
    rw [hdrFlat_cons, hke] at hF ⊢
    simp only [List.length_append] at hF
    have := encodeAny_len_pos (labelAny k)
    obtain ⟨⟨x1, d1⟩, a1⟩ := scalar_passes hks (encodeAny v ++ (hdrFlat m ++ r)) F d (by omega)
    obtain ⟨⟨x2, d2⟩, a2⟩ := scalar_passes hok.1.2 (hdrFlat m ++ r) F d (by omega)
    have := ih (acc ++ [(k, v)]) r F d hok.2 (by simpa using hk) (by omega)
    simp only [List.length_cons, hdrPairs, List.append_assoc, d1, take_prefix, a1, hkl, d2, a2, vmapSet_fresh hk, this]
    rfl

theorem hdrSortedB_sound (m : List (Val × AnyVal)) (h : hdrSortedB m = true) : HdrSorted m :=
  pairwise_of_all (fun _ _ => rfl) m h

theorem hdrMapOK_facts {m : List (Val × AnyVal)} (h : hdrMapOK m = true) :
    hdrElemsOK m = true ∧ HdrSorted m ∧ m.length < maxLen / 2 ∧ (encHdrMap m).length < maxLen := by
  simp only [hdrMapOK, Bool.and_eq_true, decide_eq_true_eq] at h
  exact ⟨h.1.1.1, hdrSortedB_sound m h.1.1.2, h.1.2, h.2⟩

theorem encHdrMap_sorted (m : List (Val × AnyVal)) (hs : HdrSorted m) :
    encHdrMap m = encHead 5 m.length ++ hdrFlat m := by
  rw [encHdrMap, sortByKey_sorted (by rw [List.pairwise_map]; exact hs)]
  simp [hdrFlat, List.map_map, Function.comp_def]

theorem decodeHdrMap_rt {m : List (Val × AnyVal)} (hm : hdrMapOK m = true) (r : Bytes) {F D : Nat} (hD : 1 ≤ D)
    (hF : 2 * (encHdrMap m).length ≤ F) : decodeHdrMap F D (encHdrMap m ++ r) = some (m, r) := by
  obtain ⟨hok, hs, hl, _⟩ := hdrMapOK_facts hm
  rw [encHdrMap_sorted m hs, List.length_append] at hF
  have := encHead_len_pos 5 m.length
  obtain ⟨F, rfl⟩ : ∃ F', F = F' + 1 := ⟨F - 1, by omega⟩
  have hd := distinct_of_sorted (fun _ _ h => congrArg encLabel (keyEq_eq _ _ h)) hs
  have := hdrPairs_rt m [] r F (D - 1) hok hd (by omega)
  simp only [encHdrMap_sorted m hs, List.append_assoc, decodeHdrMap,
    decHead_encHead (mt := 5) (n := m.length) (r := hdrFlat m ++ r) (by decide) (by simp only [maxLen] at hl; omega)]
  simpa [show ¬ (m.length ≥ maxLen / 2 ∨ D = 0) by omega] using this

/-- `Cose.encProtected pm`, over which Sig_structure and MAC_structure are built, is also the content of the byte
string `encodeFields` writes for the protected bucket (`encodeFields_inv`): nothing for an empty map. -/
theorem encProtected_len {pm : List (Val × AnyVal)} (h : hdrMapOK pm = true) : (Cose.encProtected pm).length < maxLen := by
  unfold Cose.encProtected; split
  · decide
  · exact (hdrMapOK_facts h).2.2.2

/-- what `decodeFields` does with the content of the protected bucket -/
theorem encProtected_rt {pm : List (Val × AnyVal)} (h : hdrMapOK pm = true) {f : Nat}
    (hf : 2 * (Cose.encProtected pm).length ≤ f) :
    pm = [] ∨ (Cose.encProtected pm).isEmpty = false ∧ decodeHdrMap f maxDepth (Cose.encProtected pm) = some (pm, []) := by
  cases pm with
  | nil => exact .inl rfl
  | cons p pm =>
    have e : Cose.encProtected (p :: pm) = encHdrMap (p :: pm) := rfl
    rw [e] at hf ⊢
    exact .inr ⟨by rw [encHdrMap, encHead_eq]; rfl, by simpa using decodeHdrMap_rt h [] (by decide) hf⟩

/-- as `encodeAny_wfl`: what `decodeHdrMap` reads back is within the limits -/
theorem encHdrMap_wfl {m : List (Val × AnyVal)} (hm : hdrMapOK m = true) {d : Nat} (hd : 1 ≤ d) (r : Bytes) :
    WFL d 1 (encHdrMap m ++ r) r :=
  (decodeHdrMap_reads _ d).shape (decodeHdrMap_rt hm r hd (Nat.le_refl _))

end Fdo.Cbor
