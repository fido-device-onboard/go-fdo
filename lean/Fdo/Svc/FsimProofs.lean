import Fdo.Svc.Fsim
/-
Lemmas for C17 (Fdo/Props/C17.lean).  The download loop either stalls (`dlLoop_short`) or ends at a delivered chunk with
which the announced length is reached (`dlLoop_stops`: some prefix of what is delivered; that it is the shortest such prefix
is not stated); `download_short`, `download_exact` and `download_reject` say so in terms of `received`.
-/
namespace Fdo.Svc.Fsim
open Fdo

@[simp] theorem FS.set_same (fs : FS) (n b : Bytes) : (fs.set n b) n = some b := by
  simp [FS.set]

theorem FS.set_other (fs : FS) (n b m : Bytes) (h : m ≠ n) : (fs.set n b) m = fs m := by
  simp [FS.set, h]

@[simp] theorem Transit.none_len (n : Int) : Transit.none.len n = n := rfl
@[simp] theorem Transit.none_sha (d : Bytes) : Transit.none.sha d = d := rfl

/-! ### chunks -/

theorem chunksAux_spec (c : Nat) (hc : 1 ≤ c) (f : Nat) (b : Bytes) (hb : b.length ≤ f) :
    (chunksAux c f b).flatten = b ∧ ∀ x ∈ chunksAux c f b, x ≠ [] ∧ x.length ≤ c := by
  induction f generalizing b with
  | zero => cases List.eq_nil_of_length_eq_zero (Nat.le_zero.1 hb); exact ⟨rfl, nofun⟩
  | succ f ih =>
    unfold chunksAux
    by_cases hn : b = []
    · simp [hn]
    · have hpos : 0 < b.length := List.length_pos_iff.mpr hn
      obtain ⟨h1, h2⟩ := ih (b.drop c) (by simp only [List.length_drop]; omega)
      simp only [hn, if_false, List.flatten_cons, h1, List.take_append_drop, List.forall_mem_cons, true_and]
      refine ⟨⟨fun h => ?_, by simp only [List.length_take]; omega⟩, h2⟩
      have := congrArg List.length h
      simp only [List.length_take, List.length_nil] at this
      omega

theorem chunks_flatten (c : Nat) (hc : 1 ≤ c) (b : Bytes) : (chunks c b).flatten = b :=
  (chunksAux_spec c hc b.length b (Nat.le_refl _)).1

theorem chunks_mem (c : Nat) (hc : 1 ≤ c) (b x : Bytes) (hx : x ∈ chunks c b) : x ≠ [] ∧ x.length ≤ c :=
  (chunksAux_spec c hc b.length b (Nat.le_refl _)).2 x hx

theorem chunks_nil (c : Nat) : chunks c [] = [] := rfl

theorem chunks_ne_nil (c : Nat) (b : Bytes) (hb : b ≠ []) : chunks c b ≠ [] := by
  cases b with
  | nil => exact absurd rfl hb
  | cons x r => simp [chunks, chunksAux]

/-! ### deliver -/

theorem deliver_eq (dat : Nat → Bytes → Bytes) (k : Nat) (cs : List Bytes) :
    deliver dat k cs = (cs.zipIdx k).map fun p => (p.1, dat p.2 p.1) := by
  induction cs generalizing k with
  | nil => rfl
  | cons c cs ih => simp [deliver, ih]

theorem deliver_fst (dat : Nat → Bytes → Bytes) (k : Nat) (cs : List Bytes) :
    (deliver dat k cs).map Prod.fst = cs := by
  rw [deliver_eq, List.map_map]; exact List.zipIdx_map_fst k cs

theorem deliver_length (dat : Nat → Bytes → Bytes) (k : Nat) (cs : List Bytes) :
    (deliver dat k cs).length = cs.length := by
  rw [← List.length_map (f := Prod.fst), deliver_fst]

theorem deliver_ne_nil {dat : Nat → Bytes → Bytes} {k : Nat} {cs : List Bytes} (h : cs ≠ []) :
    deliver dat k cs ≠ [] :=
  fun e => h (List.eq_nil_of_length_eq_zero (by rw [← deliver_length dat k, e]; rfl))

theorem deliver_honest (k : Nat) (cs : List Bytes) :
    deliver (fun _ c => c) k cs = cs.map (fun c => (c, c)) := by
  -- without alteration the index is not used: drop it from the pairs first
  calc deliver (fun _ c => c) k cs = ((cs.zipIdx k).map Prod.fst).map fun c => (c, c) := by
        rw [deliver_eq, List.map_map]; rfl
    _ = cs.map fun c => (c, c) := by rw [List.zipIdx_map_fst]

theorem deliver_snd_ne_nil (dat : Nat → Bytes → Bytes) (hd : ∀ k c, c ≠ [] → dat k c ≠ []) :
    ∀ (k : Nat) (cs : List Bytes), (∀ c ∈ cs, c ≠ []) → ∀ p ∈ deliver dat k cs, p.2 ≠ [] := by
  intro k cs hc p hp
  rw [deliver_eq] at hp
  obtain ⟨q, hq, rfl⟩ := List.mem_map.1 hp
  exact hd _ _ (hc _ (List.fst_mem_of_mem_zipIdx hq))

theorem got_cons (p : Bytes × Bytes) (r : List (Bytes × Bytes)) : got (p :: r) = p.2 ++ got r := by
  simp [got]

theorem got_append (a b : List (Bytes × Bytes)) : got (a ++ b) = got a ++ got b := by
  simp [got]

theorem sentBytes_cons (p : Bytes × Bytes) (r : List (Bytes × Bytes)) :
    sentBytes (p :: r) = p.1 ++ sentBytes r := by
  simp [sentBytes]

theorem sentBytes_deliver (dat : Nat → Bytes → Bytes) (k : Nat) (cs : List Bytes) :
    sentBytes (deliver dat k cs) = cs.flatten := by
  simp [sentBytes, deliver_fst]

theorem got_pos (r : List (Bytes × Bytes)) (hr : r ≠ []) (hne : ∀ p ∈ r, p.2 ≠ []) :
    0 < (got r).length := by
  cases r with
  | nil => exact absurd rfl hr
  | cons p r =>
    have hpos : 0 < p.2.length := List.length_pos_iff.mpr (hne p List.mem_cons_self)
    rw [got_cons, List.length_append]; omega

theorem got_deliver_length (dat : Nat → Bytes → Bytes) (hd : ∀ k c, (dat k c).length = c.length)
    (k : Nat) (cs : List Bytes) : (got (deliver dat k cs)).length = cs.flatten.length := by
  have : ∀ p ∈ cs.zipIdx k, (dat p.2 p.1).length = (List.length ∘ Prod.fst) p := fun p _ => hd _ _
  simp only [got, deliver_eq, List.map_map, List.length_flatten, Function.comp_def]
  rw [List.map_congr_left this, ← List.map_map, List.zipIdx_map_fst]

theorem received_honest (c : Nat) (hc : 1 ≤ c) (file : Bytes) : received Transit.none c file = file := by
  simp [received, Transit.none, deliver_honest, got, Function.comp_def, chunks_flatten c hc]

/-- Alterations that keep the size of every chunk keep the total. -/
theorem received_length (T : Transit) (hd : ∀ k c, (T.dat k c).length = c.length) (c : Nat) (hc : 1 ≤ c)
    (file : Bytes) : (received T c file).length = file.length := by
  rw [received, got_deliver_length T.dat hd, chunks_flatten c hc]

/-! ### the download round loop -/

section loop
variable (H : Bytes → Bytes) (must : Bool)

/-- How a finalisation ends the exchange. -/
def dlEnd (d : DlDev) (fs : FS) (buf : Bytes) (index cnt : Nat) : DlResult :=
  match dlFinalize H d fs buf with
  | (d', fs', .done code) => ⟨fs', d', some code, dlOwnerDone must index code, cnt⟩
  | (d', fs', .fail) => ⟨fs', d', none, .err, cnt⟩
  | (d', fs', .quiet) => ⟨fs', d', none, .stall, cnt⟩

theorem dlFinalize_ne_quiet (d : DlDev) (fs : FS) (buf : Bytes) (d' : DlDev) (fs' : FS) :
    dlFinalize H d fs buf ≠ (d', fs', .quiet) := by
  fun_cases dlFinalize H d fs buf <;> nofun

theorem dlFinalize_long (d : DlDev) (fs : FS) (buf : Bytes)
    (h : (buf.length : Int) > d.length) : dlFinalize H d fs buf = (.fresh, fs, .done (-1)) := by
  unfold dlFinalize; rw [if_pos h]

theorem dlFinalize_badsha (d : DlDev) (fs : FS) (buf : Bytes)
    (h : ¬ (buf.length : Int) > d.length) (hs : d.sha ≠ [] ∧ H buf ≠ d.sha) :
    dlFinalize H d fs buf = (.fresh, fs, .done (-1)) := by
  unfold dlFinalize; rw [if_neg h, if_pos hs]

theorem dlFinalize_ok (d : DlDev) (fs : FS) (buf : Bytes)
    (h : ¬ (buf.length : Int) > d.length) (hs : ¬ (d.sha ≠ [] ∧ H buf ≠ d.sha)) (hn : d.name ≠ []) :
    dlFinalize H d fs buf = (.fresh, fs.set d.name buf, .done buf.length) := by
  unfold dlFinalize; rw [if_neg h, if_neg hs, if_neg hn]

variable {H must} in
theorem dlEnd_done {d : DlDev} {fs : FS} {buf : Bytes} {index cnt : Nat}
    {d' : DlDev} {fs' : FS} {code : Int} (h : dlFinalize H d fs buf = (d', fs', .done code)) :
    dlEnd H must d fs buf index cnt = ⟨fs', d', some code, dlOwnerDone must index code, cnt⟩ := by
  simp only [dlEnd, h]

theorem dlOwnerDone_fail (index : Nat) :
    dlOwnerDone must index (-1) = (if must then .err else .done) := by
  simp [dlOwnerDone]

theorem dlEnd_reject (d : DlDev) (fs : FS) (buf : Bytes) (index cnt : Nat)
    (h : (buf.length : Int) > d.length ∨ d.sha ≠ [] ∧ H buf ≠ d.sha) :
    dlEnd H must d fs buf index cnt = ⟨fs, .fresh, some (-1), if must then .err else .done, cnt⟩ := by
  by_cases hgt : (buf.length : Int) > d.length
  · rw [dlEnd_done (dlFinalize_long H d fs buf hgt), dlOwnerDone_fail]
  · rw [dlEnd_done (dlFinalize_badsha H d fs buf hgt (h.resolve_left hgt)), dlOwnerDone_fail]

/-- One step of the loop that finalises (the result does not depend on the temp file's presence). -/
theorem dlLoop_step_final (k idx : Nat) (n : Bytes) (L : Int) (s : Bytes)
    (t : Option Bytes) (fs : FS) (p : Bytes × Bytes) (r : List (Bytes × Bytes))
    (h : ((t.getD [] ++ p.2).length : Int) ≥ L) :
    dlLoop H must k idx ⟨n, L, s, t⟩ fs (p :: r) =
      dlEnd H must ⟨n, L, s, none⟩ fs (t.getD [] ++ p.2) (idx + p.1.length) (k + 1) := by
  obtain ⟨sent, gotc⟩ := p
  simp only [dlLoop, dlRecv, dlEnd, ge_iff_le, h, if_true]
  rw [show dlFinalize H ⟨n, L, s, t⟩ fs (t.getD [] ++ gotc) = dlFinalize H ⟨n, L, s, none⟩ fs (t.getD [] ++ gotc) from rfl]
  cases hfin : dlFinalize H ⟨n, L, s, none⟩ fs (t.getD [] ++ gotc) with
  | mk d' rest =>
    obtain ⟨fs', out⟩ := rest
    cases out with
    | quiet => exact absurd hfin (dlFinalize_ne_quiet H _ fs _ d' fs')
    | done code => rfl
    | fail => rfl

theorem dlLoop_step_quiet (k idx : Nat) (n : Bytes) (L : Int) (s : Bytes)
    (t : Option Bytes) (fs : FS) (p : Bytes × Bytes) (r : List (Bytes × Bytes))
    (h : ((t.getD [] ++ p.2).length : Int) < L) :
    dlLoop H must k idx ⟨n, L, s, t⟩ fs (p :: r) =
      dlLoop H must (k + 1) (idx + p.1.length) ⟨n, L, s, some (t.getD [] ++ p.2)⟩ fs r := by
  obtain ⟨sent, gotc⟩ := p
  have h' : ¬ ((t.getD [] ++ gotc).length : Int) ≥ L := by simp only [ge_iff_le] at h ⊢; omega
  simp only [dlLoop, dlRecv, h', if_false]

variable {H must} in
/-- Fewer bytes than announced arrive: nobody ever answers, the temp file stays. -/
theorem dlLoop_short {n : Bytes} {L : Int} {s : Bytes}
    {ps : List (Bytes × Bytes)} {k idx : Nat} {t : Option Bytes} {fs : FS}
    (h : ((t.getD [] ++ got ps).length : Int) < L) :
    dlLoop H must k idx ⟨n, L, s, t⟩ fs ps =
      ⟨fs, ⟨n, L, s, if ps = [] then t else some (t.getD [] ++ got ps)⟩, none, .stall, k + ps.length⟩ := by
  induction ps generalizing k idx t with
  | nil => simp [dlLoop]
  | cons p r ih =>
    rw [got_cons, ← List.append_assoc] at h
    rw [dlLoop_step_quiet H must k idx n L s t fs p r (by simp only [List.length_append] at h ⊢; omega),
      ih (k := k + 1) (idx := idx + p.1.length) (t := some (t.getD [] ++ p.2)) h]
    by_cases hr : r = []
    · subst hr; simp [got]
    · simp [hr, got_cons, List.append_assoc]; omega

/-- At least the announced number of bytes arrives: the device finalises at a message with which the announced length is
reached, on everything received up to there. -/
theorem dlLoop_stops (n : Bytes) (L : Int) (s : Bytes)
    (ps : List (Bytes × Bytes)) (k idx : Nat) (t : Option Bytes) (fs : FS)
    (hps : ps ≠ []) (h : L ≤ ((t.getD [] ++ got ps).length : Int)) :
    ∃ pre post, ps = pre ++ post ∧ L ≤ ((t.getD [] ++ got pre).length : Int) ∧
      dlLoop H must k idx ⟨n, L, s, t⟩ fs ps =
        dlEnd H must ⟨n, L, s, none⟩ fs (t.getD [] ++ got pre) (idx + (sentBytes pre).length) (k + pre.length) := by
  induction ps generalizing k idx t with
  | nil => exact absurd rfl hps
  | cons p r ih =>
    rw [got_cons, ← List.append_assoc] at h
    by_cases hge : ((t.getD [] ++ p.2).length : Int) ≥ L
    · exact ⟨[p], r, rfl, by simpa [got] using hge,
        by simpa [got, sentBytes] using dlLoop_step_final H must k idx n L s t fs p r hge⟩
    · have hr : r ≠ [] := fun hr => by
        subst hr; simp only [got, List.map_nil, List.flatten_nil, List.append_nil] at h; omega
      obtain ⟨pre, post, rfl, hL, he⟩ := ih (k + 1) (idx + p.1.length) (some (t.getD [] ++ p.2)) hr h
      refine ⟨p :: pre, post, rfl, by simpa [got_cons, List.append_assoc] using hL, ?_⟩
      rw [dlLoop_step_quiet H must k idx n L s t fs p _ (by omega), he]
      simp only [Option.getD_some, got_cons, sentBytes_cons, List.append_assoc, List.length_append,
        List.length_cons]
      congr 1 <;> omega

end loop

/-! ### download: from the parameters to the loop -/

theorem dlMaxChunk_pos (chunk : Int) : 1 ≤ dlMaxChunk chunk := by
  fun_cases dlMaxChunk chunk <;> omega

theorem dlChunk_pos (mtu : Nat) (chunk : Int) (hav : 1 ≤ dataAvail mtu) : 1 ≤ dlChunk mtu chunk :=
  Nat.le_min.mpr ⟨by omega, dlMaxChunk_pos chunk⟩

section download
variable (H : Bytes → Bytes) (P : DlParams) (file : Bytes) (T : Transit) (fs : FS)

theorem download_eq
    (hfit : fits true P.mtu modDownload (dlAnnounce P.name file.length) = true)
    (hav : 1 ≤ dataAvail P.mtu) :
    download H P file T fs =
      dlLoop H P.must 0 0 ⟨P.name, T.len file.length, T.sha (H file), none⟩ fs
        (deliver T.dat 0 (chunks (dlChunk P.mtu P.chunk) file)) := by
  unfold download
  have h : ¬ dataAvail P.mtu < 1 := by omega
  simp only [hfit, Bool.not_true, Bool.false_eq_true, if_false, h, dlAnnounced]

/-- Fewer bytes than announced arrive: the owner has nothing left to send and the device waits. -/
theorem download_short
    (hfit : fits true P.mtu modDownload (dlAnnounce P.name file.length) = true)
    (hav : 1 ≤ dataAvail P.mtu)
    (hL : ((received T (dlChunk P.mtu P.chunk) file).length : Int) < T.len file.length) :
    download H P file T fs =
      ⟨fs, ⟨P.name, T.len file.length, T.sha (H file),
        if file = [] then none else some (received T (dlChunk P.mtu P.chunk) file)⟩, none, .stall,
        (chunks (dlChunk P.mtu P.chunk) file).length⟩ := by
  rw [download_eq H P file T fs hfit hav]
  refine (dlLoop_short (by simpa [received] using hL)).trans ?_
  by_cases hf : file = []
  · simp [hf, chunks_nil, deliver]
  · simp [hf, deliver_ne_nil (chunks_ne_nil _ file hf), deliver_length, received]

/-- Exactly the announced number of bytes arrives and no chunk arrives empty: the device finalises at
the last chunk, on all the bytes. -/
theorem download_exact
    (hne : file ≠ [])
    (hfit : fits true P.mtu modDownload (dlAnnounce P.name file.length) = true)
    (hav : 1 ≤ dataAvail P.mtu)
    (hd : ∀ k c, c ≠ [] → T.dat k c ≠ [])
    (hL : ((received T (dlChunk P.mtu P.chunk) file).length : Int) = T.len file.length) :
    download H P file T fs =
      dlEnd H P.must ⟨P.name, T.len file.length, T.sha (H file), none⟩ fs
        (received T (dlChunk P.mtu P.chunk) file) file.length (chunks (dlChunk P.mtu P.chunk) file).length := by
  have hc := dlChunk_pos P.mtu P.chunk hav
  obtain ⟨pre, post, hps, hpre, he⟩ := dlLoop_stops H P.must P.name (T.len file.length) (T.sha (H file)) _ 0 0 none fs
    (deliver_ne_nil (dat := T.dat) (k := 0) (chunks_ne_nil (dlChunk P.mtu P.chunk) file hne))
    (by rw [← hL]; simp [received])
  have hpost : post = [] := Decidable.by_contra fun hp => by
    have := got_pos post hp fun p hp => deliver_snd_ne_nil T.dat hd 0 _ (fun c hm => (chunks_mem _ hc file c hm).1) p
      (by rw [hps]; exact List.mem_append_right _ hp)
    simp only [received, hps, got_append, List.length_append] at hL
    simp at hpre
    omega
  rw [hpost, List.append_nil] at hps
  rw [download_eq H P file T fs hfit hav, he, ← hps]
  simp [received, sentBytes_deliver, deliver_length, chunks_flatten _ hc]

/-- At least the announced number of bytes arrives, and no prefix of exactly the announced length
passes the digest check: the device answers -1 at a message with which the announced length is reached,
nothing is renamed into place and no temp file stays. -/
theorem download_reject
    (hne : file ≠ [])
    (hfit : fits true P.mtu modDownload (dlAnnounce P.name file.length) = true)
    (hav : 1 ≤ dataAvail P.mtu)
    (hL : T.len file.length ≤ ((received T (dlChunk P.mtu P.chunk) file).length : Int))
    (hbad : ∀ p : Bytes, p <+: received T (dlChunk P.mtu P.chunk) file → (p.length : Int) = T.len file.length →
      T.sha (H file) ≠ [] ∧ H p ≠ T.sha (H file)) :
    (download H P file T fs).fs = fs ∧
    (download H P file T fs).dev = .fresh ∧
    (download H P file T fs).reply = some (-1) ∧
    (download H P file T fs).owner = (if P.must then .err else .done) := by
  obtain ⟨pre, post, hps, hpre, he⟩ := dlLoop_stops H P.must P.name (T.len file.length) (T.sha (H file)) _ 0 0 none fs
    (deliver_ne_nil (dat := T.dat) (k := 0) (chunks_ne_nil (dlChunk P.mtu P.chunk) file hne))
    (by simpa [received] using hL)
  simp only [Option.getD_none, List.nil_append] at hpre he
  have hpf : got pre <+: received T (dlChunk P.mtu P.chunk) file := by
    rw [received, hps, got_append]; exact List.prefix_append _ _
  rw [download_eq H P file T fs hfit hav, he, dlEnd_reject]
  · exact ⟨rfl, rfl, rfl, rfl⟩
  · by_cases hgt : ((got pre).length : Int) > T.len file.length
    · exact .inl hgt
    · exact .inr (hbad _ hpf (by omega))

end download

/-! ### the upload owner's fold -/

theorem upFold_data (T : Transit) (k : Nat) (cs : List Bytes) (rest : List UpMsg) (o : UpOwner) :
    (upTransit T k (cs.map UpMsg.data ++ rest)).foldl upHandle o =
      (upTransit T (k + cs.length) rest).foldl upHandle
        { o with temp := if cs = [] then o.temp else some (o.temp.getD [] ++ got (deliver T.dat k cs)) } := by
  induction cs generalizing k o with
  | nil => simp
  | cons c cs ih =>
    simp only [List.map_cons, List.cons_append, upTransit, List.foldl_cons, upHandle, ih, List.length_cons,
      Nat.add_assoc, Nat.add_comm 1]
    by_cases hr : cs = []
    · subst hr; simp [deliver, got]
    · simp [hr, deliver, got_cons, List.append_assoc]

/-- The owner module's state after everything the device sends. -/
theorem upFold (H : Bytes → Bytes) (T : Transit) (c : Nat) (file : Bytes) :
    (upTransit T 0 (upSend H c file)).foldl upHandle .init =
      ⟨T.len file.length, T.sha (H file),
        if chunks c file = [] then none else some (received T c file)⟩ := by
  simp only [upSend, upTransit, List.foldl_cons, upFold_data, List.foldl_nil, upHandle, UpOwner.init]
  by_cases hc : chunks c file = [] <;> simp [hc, received]

theorem upBuf_eq (T : Transit) (c : Nat) (file : Bytes) :
    (if chunks c file = [] then none else some (received T c file)).getD [] = received T c file := by
  by_cases hc : chunks c file = []
  · simp [hc, received, deliver, got]
  · simp [hc]

theorem upTemp_isSome (T : Transit) (c : Nat) (file : Bytes) (hf : file ≠ []) :
    (if chunks c file = [] then none else some (received T c file)).isSome = true := by
  simp [chunks_ne_nil c file hf]

theorem upChunk_pos (V : Variant) (ownMtu : Nat) : 1 ≤ upChunk V ownMtu := by
  cases V <;> simp [upChunk] <;> omega

theorem upload_eq (V : Variant) (H : Bytes → Bytes) (P : UpParams) (file : Bytes) (T : Transit) (fs : FS)
    (hfit : fits false P.devMtu modUpload (upRequest P.name) = true) :
    upload V H P file T fs =
      upFinal V H ⟨T.len file.length, T.sha (H file),
        if chunks (upChunk V P.ownMtu) file = [] then none else some (received T (upChunk V P.ownMtu) file)⟩
        fs (baseName P.name) := by
  unfold upload
  simp only [hfit, Bool.not_true, Bool.false_eq_true, if_false]
  rw [upFold]

/-- The checksum is absent or is the digest of the body: the body is renamed into place, and only then
does the owner compare the length. -/
theorem wget_ok (H : Bytes → Bytes) (P : WgetParams) (b : Bytes) (fs : FS)
    (hname : P.name ≠ []) (hsum : P.sum = [] ∨ P.sum = H b)
    (hfit : fits false P.mtu modWget (wgetRequest P) = true) :
    wget H P .none (some b) fs =
      ⟨fs.set P.name b, some (.done b.length), if P.len > 0 ∧ b.length ≠ P.len then .err else .done⟩ := by
  unfold wget
  have h1 : ¬ ((if P.sum = [] then [] else P.sum) ≠ [] ∧ H b ≠ (if P.sum = [] then [] else P.sum)) := by
    by_cases he : P.sum = []
    · simp [he]
    · simp [hsum.resolve_left he]
  simp only [hfit, Bool.not_true, Bool.false_eq_true, if_false, Transit.none, id, h1, hname]

theorem baseName_noslash_aux (n acc : Bytes) (h : ∀ b ∈ n, b ≠ 47) :
    n.foldl (fun acc b => if b = 47 then [] else acc ++ [b]) acc = acc ++ n := by
  induction n generalizing acc with
  | nil => simp
  | cons b n ih =>
    simp only [List.foldl_cons, h b List.mem_cons_self, if_false]
    rw [ih _ fun x hx => h x (List.mem_cons_of_mem _ hx)]
    simp

theorem baseName_noslash (n : Bytes) (h : ∀ b ∈ n, b ≠ 47) : baseName n = n := by
  unfold baseName
  rw [baseName_noslash_aux n [] h]; rfl

end Fdo.Svc.Fsim
