import Fdo.Svc.Pipeline
/-
Invariants of the device-side pipeline model: no reachable state is stuck (deadlock freedom for every
schedule and every channel capacity ≥ 1), every schedule terminates, and what the transport loop reads
is the byte stream the modules wrote — whatever the schedule.

The module goroutine only touches the newest pipe, so `closeLast`, `writeLast`, `lastOpen` and
`AllButLastClosed` are characterised on `l ++ [p]`; the rest follows by `snoc_cases`.
-/
namespace Fdo.Svc.Pipeline
open Fdo

/-! ### the pipes, seen from the newest one -/

def AllClosed : List Pipe → Prop
  | [] => True
  | p :: r => p.closed = true ∧ AllClosed r

def AllButLastClosed : List Pipe → Prop
  | [] => True
  | [_] => True
  | p :: q :: r => p.closed = true ∧ AllButLastClosed (q :: r)

theorem snoc_cases (l : List Pipe) : l = [] ∨ ∃ i p, l = i ++ [p] := by
  simpa [List.concat_eq_append] using l.eq_nil_or_concat

theorem allClosed_iff (l : List Pipe) : AllClosed l ↔ ∀ p ∈ l, p.closed = true := by
  induction l with
  | nil => simp [AllClosed]
  | cons p r ih => simp [AllClosed, ih]

theorem closeLast_concat (l : List Pipe) (p : Pipe) : closeLast (l ++ [p]) = l ++ [{ p with closed := true }] := by
  induction l with
  | nil => rfl
  | cons q r ih => cases r <;> simp_all [closeLast]

theorem writeLast_concat (b : Bytes) (l : List Pipe) (p : Pipe) :
    writeLast b (l ++ [p]) = l ++ [if p.closed then p else { p with data := p.data ++ b }] := by
  induction l with
  | nil => rfl
  | cons q r ih => cases r <;> simp_all [writeLast]

theorem lastOpen_concat (l : List Pipe) (p : Pipe) : lastOpen (l ++ [p]) = !p.closed := by
  induction l with
  | nil => rfl
  | cons q r ih => cases r <;> simp_all [lastOpen]

theorem abl_concat (l : List Pipe) (p : Pipe) : AllButLastClosed (l ++ [p]) ↔ AllClosed l := by
  induction l with
  | nil => simp [AllButLastClosed, AllClosed]
  | cons q r ih => cases r <;> simp_all [AllButLastClosed, AllClosed]

theorem pipeBytes_append (a b : List Pipe) : pipeBytes (a ++ b) = pipeBytes a ++ pipeBytes b := by
  induction a with
  | nil => rfl
  | cons p r ih => simp [pipeBytes, ih]

theorem evBytes_append (a b : List Ev) : evBytes (a ++ b) = evBytes a ++ evBytes b := by
  induction a with
  | nil => rfl
  | cons e r ih => cases e <;> simp [evBytes, ih]

theorem closeLast_length (l : List Pipe) : (closeLast l).length = l.length := by
  rcases snoc_cases l with rfl | ⟨i, p, rfl⟩ <;> simp [closeLast, closeLast_concat]

theorem writeLast_length (b : Bytes) (l : List Pipe) : (writeLast b l).length = l.length := by
  rcases snoc_cases l with rfl | ⟨i, p, rfl⟩ <;> simp [writeLast, writeLast_concat]

theorem closeLast_allClosed (l : List Pipe) (h : AllButLastClosed l) : AllClosed (closeLast l) := by
  rcases snoc_cases l with rfl | ⟨i, p, rfl⟩
  · trivial
  · rw [abl_concat, allClosed_iff] at h
    simpa [closeLast_concat, allClosed_iff, or_imp, forall_and] using h

theorem allClosed_abl (l : List Pipe) (h : AllClosed l) : AllButLastClosed l := by
  rcases snoc_cases l with rfl | ⟨i, p, rfl⟩
  · trivial
  · rw [abl_concat]; rw [allClosed_iff] at h ⊢; exact fun q hq => h q (List.mem_append_left _ hq)

theorem allClosed_lastOpen (l : List Pipe) (h : AllClosed l) : lastOpen l = false := by
  rcases snoc_cases l with rfl | ⟨i, p, rfl⟩
  · rfl
  · simp [lastOpen_concat, (allClosed_iff _).1 h p]

theorem writeLast_abl (b : Bytes) (l : List Pipe) (h : AllButLastClosed l) : AllButLastClosed (writeLast b l) := by
  rcases snoc_cases l with rfl | ⟨i, p, rfl⟩
  · trivial
  · rw [writeLast_concat, abl_concat]; exact (abl_concat i p).1 h

theorem writeLast_lastOpen (b : Bytes) (l : List Pipe) : lastOpen (writeLast b l) = lastOpen l := by
  rcases snoc_cases l with rfl | ⟨i, p, rfl⟩
  · rfl
  · rw [writeLast_concat, lastOpen_concat, lastOpen_concat]; split <;> rfl

theorem pipeBytes_closeLast (l : List Pipe) : pipeBytes (closeLast l) = pipeBytes l := by
  rcases snoc_cases l with rfl | ⟨i, p, rfl⟩ <;> simp [closeLast, closeLast_concat, pipeBytes_append, pipeBytes]

theorem pipeBytes_writeLast (b : Bytes) (l : List Pipe) :
    pipeBytes (writeLast b l) = pipeBytes l ++ (if lastOpen l then b else []) := by
  rcases snoc_cases l with rfl | ⟨i, p, rfl⟩
  · rfl
  · cases hc : p.closed <;> simp [writeLast_concat, lastOpen_concat, pipeBytes_append, pipeBytes, hc]

theorem abl_tail (p : Pipe) (r : List Pipe) (h : AllButLastClosed (p :: r)) : AllButLastClosed r := by
  cases r with
  | nil => trivial
  | cons q r => exact h.2

theorem abl_head_closed (p q : Pipe) (r : List Pipe) (h : AllButLastClosed (p :: q :: r)) : p.closed = true := h.1

theorem allClosed_tail (p : Pipe) (r : List Pipe) (h : AllClosed (p :: r)) : AllClosed r := h.2

theorem lastOpen_tail (p : Pipe) (r : List Pipe) (he : r ≠ []) : lastOpen (p :: r) = lastOpen r := by
  cases r with
  | nil => exact absurd rfl he
  | cons q r => rfl

theorem lastOpen_head_data (p : Pipe) (d : Bytes) (r : List Pipe) :
    lastOpen ({ p with data := d } :: r) = lastOpen (p :: r) := by
  cases r <;> rfl

theorem abl_setData (p : Pipe) (d : Bytes) (r : List Pipe) (h : AllButLastClosed (p :: r)) :
    AllButLastClosed ({ p with data := d } :: r) := by
  cases r with
  | nil => trivial
  | cons q r => exact h

/-! ### reachable states -/

theorem Reach.inv {cap : Nat} {script : List Act} {P : St → Prop} (h0 : P (St.init cap script))
    (hstep : ∀ s t, P s → Step s t → P t) {s : St} (h : Reach cap script s) : P s := by
  induction h with
  | init => exact h0
  | step s t _ hst ih => exact hstep s t ih hst

theorem reach_cap {cap : Nat} {script : List Act} {s : St} (h : Reach cap script s) : s.cap = cap :=
  h.inv (P := fun s => s.cap = cap) rfl fun _ _ ih hst => by cases hst <;> exact ih

/-! ### the invariant -/

structure Inv (s : St) : Prop where
  abl : AllButLastClosed s.pipes
  done_closed : s.mDone = true → s.script = [] ∧ AllClosed s.pipes
  held_nonempty : s.held = true → s.pipes ≠ []
  queued_le : s.queued ≤ s.cap
  tdone : s.tDone = true → s.mDone = true ∧ s.pipes = [] ∧ s.held = false

theorem inv_init (cap : Nat) (script : List Act) : Inv (St.init cap script) :=
  ⟨trivial, nofun, nofun, Nat.zero_le _, nofun⟩

theorem Inv.mDone_false {s : St} (hi : Inv s) {a : Act} {rest : List Act} (h : s.script = a :: rest) :
    s.mDone = false := by
  cases hm : s.mDone with
  | false => rfl
  | true => rw [(hi.done_closed hm).1] at h; cases h

theorem inv_step (s t : St) (hi : Inv s) (hs : Step s t) : Inv t := by
  obtain ⟨habl, hdone, hheld, hq, htd⟩ := hi
  -- the reader has not seen EOF while the writer is alive or a pipe is left
  have hnd : s.mDone = false → s.tDone = false := fun hm => by
    cases ht : s.tDone with
    | false => rfl
    | true => rw [(htd ht).1] at hm; cases hm
  have hnp : ∀ {p r}, s.pipes = p :: r → s.tDone = false := fun hp => by
    cases ht : s.tDone with
    | false => rfl
    | true => rw [(htd ht).2.1] at hp; cases hp
  unfold St.queued at hq
  cases hs with
  | mNext rest h hroom | mYield rest h hroom =>
    have hm := Inv.mDone_false ⟨habl, hdone, hheld, hq, htd⟩ h
    refine ⟨(abl_concat _ _).2 (closeLast_allClosed _ habl), fun h1 => (Bool.eq_false_iff.1 hm h1).elim,
      fun _ => List.append_ne_nil_of_right_ne_nil _ (List.cons_ne_nil _ _), ?_, fun h1 => (Bool.eq_false_iff.1 (hnd hm) h1).elim⟩
    simp only [St.queued, List.length_append, closeLast_length, List.length_singleton] at hroom ⊢
    omega
  | mWrite b rest h =>
    have hm := Inv.mDone_false ⟨habl, hdone, hheld, hq, htd⟩ h
    refine ⟨writeLast_abl _ _ habl, fun h1 => (Bool.eq_false_iff.1 hm h1).elim, fun h1 h2 => hheld h1 ?_, ?_,
      fun h1 => (Bool.eq_false_iff.1 (hnd hm) h1).elim⟩
    · exact List.eq_nil_of_length_eq_zero (by rw [← writeLast_length b, show writeLast b s.pipes = [] from h2]; rfl)
    · simp only [St.queued, writeLast_length]; exact hq
  | mClose h hd =>
    have hc := closeLast_allClosed _ habl
    refine ⟨allClosed_abl _ hc, fun _ => ⟨h, hc⟩, fun h1 h2 => hheld h1 ?_, ?_, fun h1 => (Bool.eq_false_iff.1 (hnd hd) h1).elim⟩
    · exact List.eq_nil_of_length_eq_zero (by rw [← closeLast_length, show closeLast s.pipes = [] from h2]; rfl)
    · simp only [St.queued, closeLast_length]; exact hq
  | tRecv p r hh hp =>
    refine ⟨habl, hdone, fun _ => hp ▸ List.cons_ne_nil _ _, ?_, fun h1 => (Bool.eq_false_iff.1 (hnp hp) h1).elim⟩
    simp only [St.queued, hh, if_true, Bool.false_eq_true, if_false] at hq ⊢; omega
  | tRead p r k hh hp hk hk' =>
    rw [hp] at habl hdone hq
    exact ⟨abl_setData p _ r habl, hdone, fun _ => List.cons_ne_nil _ _, hq,
      fun h1 => (Bool.eq_false_iff.1 (hnp hp) h1).elim⟩
  | tDrop p r hh hp he hc =>
    rw [hp] at habl hdone hq
    refine ⟨abl_tail p r habl, fun h1 => ⟨(hdone h1).1, (hdone h1).2.2⟩, nofun, ?_,
      fun h1 => (Bool.eq_false_iff.1 (hnp hp) h1).elim⟩
    simp only [St.queued, hh, if_true, Bool.false_eq_true, if_false, List.length_cons] at hq ⊢; omega
  | tEof hh hp hm ht => exact ⟨habl, hdone, hheld, hq, fun _ => ⟨hm, hp, hh⟩⟩

theorem inv_reach (cap : Nat) (script : List Act) (s : St) (h : Reach cap script s) : Inv s :=
  h.inv (inv_init cap script) inv_step

/-! ### deadlock freedom -/

/-- the module goroutine can make a step whenever it has not finished and the channel has room -/
theorem module_can_step (s : St) (hm : s.mDone = false) (hroom : s.queued < s.cap) : ∃ t, Step s t := by
  cases hsc : s.script with
  | nil => exact ⟨_, Step.mClose s hsc hm⟩
  | cons a rest =>
    cases a with
    | next => exact ⟨_, Step.mNext s rest hsc hroom⟩
    | yield => exact ⟨_, Step.mYield s rest hsc hroom⟩
    | write b => exact ⟨_, Step.mWrite s b rest hsc⟩

theorem progress (s : St) (hcap : 1 ≤ s.cap) (hi : Inv s) (hf : ¬ s.final) : ∃ t, Step s t := by
  obtain ⟨habl, hdone, hheld, hq, htd⟩ := hi
  cases htdv : s.tDone with
  | true => exact absurd ⟨(htd htdv).1, htdv⟩ hf
  | false =>
    cases hh : s.held with
    | false =>
      cases hp : s.pipes with
      | cons p r => exact ⟨_, Step.tRecv s p r hh hp⟩
      | nil =>
        cases hm : s.mDone with
        | true => exact ⟨_, Step.tEof s hh hp hm htdv⟩
        | false => exact module_can_step s hm (by simp [St.queued, hp]; omega)
    | true =>
      cases hp : s.pipes with
      | nil => exact absurd hp (hheld hh)
      | cons p r =>
        cases hd : p.data with
        | cons x xs => exact ⟨_, Step.tRead s p r 1 hh hp (Nat.le_refl 1) (by simp [hd])⟩
        | nil =>
          cases hc : p.closed with
          | true => exact ⟨_, Step.tDrop s p r hh hp hd hc⟩
          | false =>
            -- the pipe held is open and empty: it is the newest pipe, the channel is empty, the writer is alive
            rw [hp] at habl hdone
            have hr : r = [] := by
              cases r with
              | nil => rfl
              | cons q r' => rw [habl.1] at hc; cases hc
            have hm : s.mDone = false := by
              cases hmd : s.mDone with
              | false => rfl
              | true => rw [(hdone hmd).2.1] at hc; cases hc
            exact module_can_step s hm (by simp [St.queued, hp, hr, hh]; omega)

/-! ### what is read is what was written, whatever the schedule -/

/-- Read, in the pipes, and still to be written: together always the bytes of the script. -/
def StreamInv (script₀ : List Act) (s : St) : Prop :=
  evBytes s.out ++ pipeBytes s.pipes ++ scriptBytes (lastOpen s.pipes) s.script = scriptBytes false script₀

theorem stream_step (script₀ : List Act) (s t : St) (h : StreamInv script₀ s) (hs : Step s t) :
    StreamInv script₀ t := by
  unfold StreamInv at h ⊢
  cases hs with
  | mNext rest hsc hroom | mYield rest hsc hroom =>
    rw [hsc] at h
    simpa [lastOpen_concat, pipeBytes_append, pipeBytes_closeLast, pipeBytes, scriptBytes] using h
  | mWrite b rest hsc =>
    rw [hsc] at h
    simpa [writeLast_lastOpen, pipeBytes_writeLast, scriptBytes, List.append_assoc] using h
  | mClose hsc hd =>
    simpa [pipeBytes_closeLast, hsc, scriptBytes] using h
  | tRecv p r hh hp => simpa [evBytes_append, evBytes] using h
  | tRead p r k hh hp hk hk' =>
    rw [hp] at h
    simp only [pipeBytes] at h
    simp only [evBytes_append, evBytes, pipeBytes, lastOpen_head_data, List.append_nil, List.append_assoc]
    rw [← h, ← List.append_assoc (List.take k p.data), List.take_append_drop]
    simp only [List.append_assoc]
  | tDrop p r hh hp he hc =>
    rw [hp] at h
    cases r <;> simpa [lastOpen, hc, pipeBytes, he] using h
  | tEof hh hp hm ht => exact h

theorem stream_reach (cap : Nat) (script : List Act) (s : St) (h : Reach cap script s) : StreamInv script s :=
  h.inv (by simp [StreamInv, St.init, evBytes, pipeBytes, lastOpen]) (stream_step script)

theorem stream_final {script : List Act} {s : St} (hi : Inv s) (hs : StreamInv script s) (hf : s.final) :
    evBytes s.out = scriptBytes false script := by
  unfold StreamInv at hs
  rw [(hi.tdone hf.2).2.1, (hi.done_closed hf.1).1] at hs
  simpa [pipeBytes, scriptBytes] using hs

/-! ### every schedule terminates -/

def actCost : Act → Nat
  | .next => 4
  | .yield => 4
  | .write b => b.length + 1

def scriptCost : List Act → Nat
  | [] => 0
  | a :: r => actCost a + scriptCost r

/-- strictly decreasing along every step.  A pipe weighs 3: dropping it sets `held` back to false (+1) and must
still decrease; creating one then has to cost the script more, 4; a written byte costs the script one more
than it adds to the pipes. -/
def measure (s : St) : Nat :=
  scriptCost s.script + 3 * s.pipes.length + (pipeBytes s.pipes).length
    + (if s.mDone then 0 else 1) + (if s.tDone then 0 else 1) + (if s.held then 0 else 1)

theorem measure_decreases (s t : St) (hs : Step s t) : measure t < measure s := by
  cases hs with
  | mNext rest hsc hroom | mYield rest hsc hroom =>
    simp [measure, hsc, scriptCost, actCost, closeLast_length, pipeBytes_append, pipeBytes_closeLast, pipeBytes]
    omega
  | mWrite b rest hsc =>
    have : (pipeBytes (writeLast b s.pipes)).length ≤ (pipeBytes s.pipes).length + b.length := by
      rw [pipeBytes_writeLast]; split <;> simp
    simp only [measure, hsc, scriptCost, actCost, writeLast_length]
    omega
  | mClose hsc hd => simp [measure, hd, closeLast_length, pipeBytes_closeLast]
  | tRecv p r hh hp => simp [measure, hh]
  | tRead p r k hh hp hk hk' =>
    simp only [measure, hp, pipeBytes, List.length_cons, List.length_append, List.length_drop]
    omega
  | tDrop p r hh hp he hc => simp [measure, hp, hh, pipeBytes, he]; omega
  | tEof hh hp hm ht => simp [measure, ht]

/-- n steps of some schedule -/
inductive Run : Nat → St → St → Prop where
  | zero (s : St) : Run 0 s s
  | succ (n : Nat) (s t u : St) : Run n s t → Step t u → Run (n + 1) s u

theorem run_measure {n : Nat} {s t : St} (h : Run n s t) : n + measure t ≤ measure s := by
  induction h with
  | zero => simp
  | succ n s t u _ hst ih => have := measure_decreases t u hst; omega

/-! ### the executable scheduler only takes steps of the relation -/

theorem stepM_sound (s t : St) (h : stepM s = some t) : Step s t := by
  revert h
  -- here and in `stepT_sound`: a leaf that returns a state is the `Step` constructor named in its case; the others are `none`
  fun_cases stepM s with
  | case2 hsc hm => intro h; cases h; exact Step.mClose s hsc (by simpa using hm)
  | case3 rest hsc hroom => intro h; cases h; exact Step.mNext s rest hsc hroom
  | case5 rest hsc hroom => intro h; cases h; exact Step.mYield s rest hsc hroom
  | case7 b rest hsc => intro h; cases h; exact Step.mWrite s b rest hsc
  | case1 | case4 | case6 => nofun

theorem stepT_sound (s t : St) (k : Nat) (h : stepT s k = some t) : Step s t := by
  revert h
  fun_cases stepT s k with
  | case2 p r hp hh hd k' =>
    intro h; cases h; exact Step.tRead s p r _ hh hp (Nat.le_max_left _ _) (by omega)
  | case3 p r hp hh hd hc =>
    intro h; cases h; exact Step.tDrop s p r hh hp (List.eq_nil_of_length_eq_zero (by omega)) hc
  | case5 p r hp hh => intro h; cases h; exact Step.tRecv s p r hh hp
  | case6 hp hh hc => intro h; cases h; exact Step.tEof s hh hp hc.1 hc.2
  | case1 | case4 | case7 => nofun

theorem sched1_sound (s t : St) (seed : Nat) (h : sched1 s seed = some t) : Step s t := by
  revert h
  fun_cases sched1 s seed with
  | case1 _ _ t' ht => intro h; cases h; exact stepM_sound s _ ht
  | case2 => exact stepT_sound s t _
  | case3 _ _ _ t' ht => intro h; cases h; exact stepT_sound s _ _ ht
  | case4 => exact stepM_sound s t

/-- whatever the pseudo-random scheduler reaches is reachable in the model -/
theorem runSched_reach (cap : Nat) (script : List Act) (f seed : Nat) (s : St) (m : Nat)
    (h : Reach cap script s) : Reach cap script (runSched f seed s m).1 := by
  induction f generalizing seed s m with
  | zero => exact h
  | succ f ih =>
    simp only [runSched]
    cases hs : sched1 s (nextSeed seed) with
    | none => exact h
    | some t => exact ih _ _ _ (Reach.step s t h (sched1_sound s t _ hs))

end Fdo.Svc.Pipeline
