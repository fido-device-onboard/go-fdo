import Fdo.Svc.Chunk
import Fdo.Cbor.Head
/-
Lemmas about the chunker of Chunk.lean: for C15 (Props/C15.lean holds the property theorems) and, where they speak of
`rounds`, `compile` and the reference merge alone, for the devmod round (RoundsProofs).  What a read does to the readers still to be
chunked (`St.pend`) is specified once (`readChunk_spec`); what the reads of a message or of a round do to them
together is `Takes`, and content, keys and weight of the chunks returned are read off that relation.
Both relations say what reads can do, not all that they must: neither says that a chunk is the longest that fits, and
that whole messages stay whole (RoundsProofs) goes through `readNext` directly.
-/
namespace Fdo.Svc.Chunk
open Fdo Fdo.Cbor

/-! ### sizes -/

theorem rawKeyLen_eq (k : Bytes) :
    rawKeyLen k = k.length +
      (if k.length < 24 then 1 else if k.length < 256 then 2 else if k.length < 65536 then 3
       else if k.length < 4294967296 then 5 else 9) := by
  rw [rawKeyLen, encHead_length, Nat.add_comm]

theorem strSize_le_rawKeyLen (k : Bytes) : strSize k.length ≤ rawKeyLen k := by
  rw [rawKeyLen_eq]; unfold strSize
  repeat' split
  all_goals omega

theorem rawKeyLen_pos (k : Bytes) : 1 ≤ rawKeyLen k :=
  Nat.le_trans (encHead_len_pos 3 k.length) (Nat.le_add_right _ _)

/-- `avail` is the largest value length whose KV still fits `size`. -/
theorem le_avail_iff (size : Nat) (key : Bytes) (n : Nat) (hn : 1 ≤ n) :
    n ≤ avail size key ↔ 1 + rawKeyLen key + strSize n ≤ size := by
  unfold avail strSize
  simp only
  split <;> split <;> split <;> (try split) <;> omega

theorem avail_pos_iff (size : Nat) (key : Bytes) : 0 < avail size key ↔ rawKeyLen key + 3 ≤ size := by
  have := le_avail_iff size key 1 (Nat.le_refl 1)
  simp [strSize] at this
  omega

theorem kvSize_le_of_avail (size : Nat) (key val : Bytes) (hn : 1 ≤ val.length)
    (h : val.length ≤ avail size key) : kvSize ⟨key, val⟩ ≤ size := by
  have := (le_avail_iff size key _ hn).1 h
  have := strSize_le_rawKeyLen key
  simp only [kvSize]
  omega

theorem strSize_eq_rawKeyLen (k : Bytes) (h : rawKeyLen k ≤ 65535) : strSize k.length = rawKeyLen k := by
  rw [rawKeyLen_eq] at h ⊢; unfold strSize
  repeat' split
  all_goals omega

/-- A value that fits as one KV is read in one piece. -/
theorem fits_avail (size : Nat) (k v : Bytes) (hk : rawKeyLen k ≤ 65535) (h : kvSize ⟨k, v⟩ ≤ size) :
    v.length ≤ avail size k := by
  by_cases hv : v.length = 0
  · omega
  · rw [le_avail_iff size k _ (by omega), ← strSize_eq_rawKeyLen k hk]
    exact h

/-- A key that fits a message together with a value also fits an otherwise empty message. -/
theorem key_usable (size : Nat) (k v : Bytes) (hk : rawKeyLen k ≤ 65535) (hv : v ≠ [])
    (h : kvSize ⟨k, v⟩ ≤ size) : rawKeyLen k + 3 ≤ size := by
  have := fits_avail size k v hk h
  have := List.length_pos_iff.2 hv
  exact (avail_pos_iff size k).1 (by omega)

theorem avail_le (size : Nat) (key : Bytes) : avail size key ≤ size := by
  unfold avail; simp only; omega

theorem kvSize_pos (c : KV) : 1 ≤ kvSize c := by unfold kvSize; omega

theorem arrHead_le (n : Nat) : arrHead n ≤ 3 := by unfold arrHead; split <;> (try split) <;> omega

/-! ### one read -/

theorem readBody_spec (size : Nat) (key rest : Bytes) (q : Script) :
    (avail size key = 0 ∧ readBody size key rest q = some (.tooSmall, ⟨q, some (key, rest), false⟩)) ∨
    (0 < avail size key ∧ rest = [] ∧ readBody size key rest q = none) ∨
    (0 < avail size key ∧ rest ≠ [] ∧ rest.length < avail size key ∧
      readBody size key rest q = some (.kv ⟨key, rest⟩, ⟨q, none, true⟩)) ∨
    (0 < avail size key ∧ avail size key ≤ rest.length ∧
      readBody size key rest q =
        some (.kv ⟨key, rest.take (avail size key)⟩, ⟨q, some (key, rest.drop (avail size key)), true⟩)) := by
  fun_cases readBody size key rest q with
  | case1 a h0 => exact .inl ⟨h0, rfl⟩
  | case2 a h0 hlt he => exact .inr (.inl ⟨Nat.pos_of_ne_zero h0, he, rfl⟩)
  | case3 a h0 hlt hne => exact .inr (.inr (.inl ⟨Nat.pos_of_ne_zero h0, hne, hlt, rfl⟩))
  | case4 a h0 hge => exact .inr (.inr (.inr ⟨Nat.pos_of_ne_zero h0, Nat.le_of_not_lt hge, rfl⟩))

/-- The readers still to be chunked: the one in hand, then the channel. -/
def St.pend (st : St) : Script :=
  match st.cur with
  | some (k, r) => .msg k r :: st.queue
  | none => st.queue

/-- What a read passes over: forced breaks, readers with nothing left, and readers whose key read ends in EOF (their
bodies are the loss in the code as found). The last one passed may be the break or EOF that makes the read stop with
`tooSmall` (`Head.small`, first alternative). -/
def Passed (V : Variant) (size : Nat) : Step → Prop
  | .yield => True
  | .msg k b => b = [] ∨ keyRead (V.keyLimit size) k.length = .eof

/-- What a read reports and leaves, given the readers `s` from the first one it did not pass over. `small`: the read stops
where it does not skip a break or EOF (the one passed last, if any), or the reader in hand has no room for a single value
byte. `kv`: the reader is used up, or what is left of its body stays in front. -/
inductive Head (V : Variant) (size : Nat) (mid : Bool) (s : Script) : Res → St → Prop
  | eof {st'} (hs : s = []) (hend : st'.pend = []) : Head V size mid s .eof st'
  | small {st'} (hs : s = st'.pend) (hmid : st'.mid = false)
      (hwhy : (V.skipLeadingBreak && !mid) = false ∨ ∃ k b, st'.cur = some (k, b) ∧ avail size k = 0) :
      Head V size mid s .tooSmall st'
  | fail {k b st'} (hs : s = .msg k b :: st'.pend) (hkey : keyRead (V.keyLimit size) k.length = .fail) :
      Head V size mid s .fail st'
  | kv {c r q st'} (hs : s = .msg c.key (c.val ++ r) :: q) (hpos : 1 ≤ c.val.length) (hfit : kvSize c ≤ size)
      (hmid : st'.mid = true) (hrest : st'.pend = q ∧ r = [] ∨ st'.pend = .msg c.key r :: q) :
      Head V size mid s (.kv c) st'

theorem readBody_head (V : Variant) (mid : Bool) {size : Nat} {key rest : Bytes} {q : Script} {res : Res}
    {st' : St} (h : readBody size key rest q = some (res, st')) :
    Head V size mid (.msg key rest :: q) res st' := by
  rcases readBody_spec size key rest q with ⟨h0, hb⟩ | ⟨_, _, hb⟩ | ⟨_, hne, hlt, hb⟩ | ⟨hp, hle, hb⟩
  all_goals (rw [hb] at h; simp only [Option.some.injEq, Prod.mk.injEq, reduceCtorEq] at h)
  · obtain ⟨rfl, rfl⟩ := h
    exact .small rfl rfl (.inr ⟨_, _, rfl, h0⟩)
  · obtain ⟨rfl, rfl⟩ := h
    have hl : 1 ≤ rest.length := List.length_pos_iff.mpr hne
    exact .kv (r := []) (q := q) (by simp) hl (kvSize_le_of_avail _ _ _ hl (Nat.le_of_lt hlt)) rfl (.inl ⟨rfl, rfl⟩)
  · obtain ⟨rfl, rfl⟩ := h
    have hl : (rest.take (avail size key)).length = avail size key := by rw [List.length_take]; omega
    exact .kv (by simp) (by simp only; omega) (kvSize_le_of_avail _ _ _ (by omega) (by omega)) rfl (.inr rfl)

theorem readBody_none {size : Nat} {key rest : Bytes} {q : Script}
    (h : readBody size key rest q = none) : rest = [] := by
  rcases readBody_spec size key rest q with ⟨_, hb⟩ | ⟨_, he, _⟩ | ⟨_, _, _, hb⟩ | ⟨_, _, hb⟩
  · rw [hb] at h; cases h
  · exact he
  · rw [hb] at h; cases h
  · rw [hb] at h; cases h

/-- One `ReadChunk(size)`: it passes over a prefix of the readers and reports on the next. -/
def OneRead (V : Variant) (size : Nat) (mid : Bool) (q : Script) (res : Res) (st' : St) : Prop :=
  ∃ pre s, q = pre ++ s ∧ (∀ x ∈ pre, Passed V size x) ∧ Head V size mid s res st'

theorem OneRead.skip {V : Variant} {size : Nat} {mid : Bool} {q : Script} {res : Res} {st' : St} {x : Step}
    (hx : Passed V size x) : OneRead V size mid q res st' → OneRead V size mid (x :: q) res st' :=
  fun ⟨pre, s, hq, hp, hh⟩ => ⟨x :: pre, s, by rw [hq]; rfl, List.forall_mem_cons.2 ⟨hx, hp⟩, hh⟩

theorem OneRead.head {V : Variant} {size : Nat} {mid : Bool} {q : Script} {res : Res} {st' : St}
    (h : Head V size mid q res st') : OneRead V size mid q res st' := ⟨[], q, rfl, nofun, h⟩

theorem readNext_spec {V : Variant} {size : Nat} {mid : Bool} {q : Script} {res : Res} {st' : St}
    (h : readNext V size mid q = (res, st')) : OneRead V size mid q res st' := by
  -- channel closed; yield skipped, reported; key read `.fail`; `.eof` skipped, reported; body read, body empty
  fun_induction readNext V size mid q
  case case1 => cases h; exact .head (.eof rfl rfl)
  case case2 ih => exact .skip trivial (ih h)
  case case3 hc => cases h; exact .skip trivial (.head (.small rfl rfl (.inl (by simpa using hc))))
  case case4 hkr => cases h; exact .head (.fail rfl hkr)
  case case5 hkr _ ih => exact .skip (.inr hkr) (ih h)
  case case6 hkr hc => cases h; exact .skip (.inr hkr) (.head (.small rfl rfl (.inl (by simpa using hc))))
  case case7 hb => cases h; exact .head (readBody_head V mid hb)
  case case8 hb ih => exact .skip (.inl (readBody_none hb)) (ih h)

theorem readChunk_none (V : Variant) {st : St} (size : Nat) (hc : st.cur = none) :
    readChunk V st size = readNext V size st.mid st.queue := by
  unfold readChunk; rw [hc]

theorem readChunk_some_some (V : Variant) {st : St} {size : Nat} {key rest : Bytes} {r0 : Res × St}
    (hc : st.cur = some (key, rest)) (hb : readBody size key rest st.queue = some r0) :
    readChunk V st size = r0 := by
  unfold readChunk; rw [hc]; simp only; rw [hb]

theorem readChunk_some_none (V : Variant) {st : St} {size : Nat} {key rest : Bytes}
    (hc : st.cur = some (key, rest)) (hb : readBody size key rest st.queue = none) :
    readChunk V st size = readNext V size st.mid st.queue := by
  unfold readChunk; rw [hc]; simp only; rw [hb]

theorem readChunk_spec {V : Variant} {st : St} {size : Nat} {res : Res} {st' : St}
    (h : readChunk V st size = (res, st')) : OneRead V size st.mid st.pend res st' := by
  revert h
  unfold St.pend
  fun_cases readChunk V st size with
  | case1 hc => intro h; rw [hc]; exact readNext_spec h
  | case2 key rest hc r0 hb => intro h; rw [hc]; exact .head (readBody_head V st.mid (h ▸ hb))
  | case3 key rest hc hb => intro h; rw [hc]; exact .skip (.inl (readBody_none hb)) (readNext_spec h)

/-! ### what a state still owes, as functions of `St.pend` -/

/-- The chunk a reader with key `k` and unread bytes `r` still owes (none when it is exhausted). -/
def curKVs : Option (Bytes × Bytes) → List KV
  | some (k, r) => if r = [] then [] else [⟨k, r⟩]
  | none => []

/-- The script's non-empty messages as whole KVs. -/
def kvsOf : Script → List KV
  | [] => []
  | .msg k b :: r => curKVs (some (k, b)) ++ kvsOf r
  | .yield :: r => kvsOf r

def content (st : St) : List KV := curKVs st.cur ++ kvsOf st.queue

def pairs (cs : List KV) : List (Bytes × Bytes) := cs.map fun c => (c.key, c.val)

/-- A predicate on keys that holds for everything still to be chunked. -/
def KeysP (P : Bytes → Prop) (st : St) : Prop := ∀ k b, Step.msg k b ∈ st.pend → P k

theorem content_eq (st : St) : content st = kvsOf st.pend := by
  unfold content St.pend; split <;> simp [*, curKVs, kvsOf]

theorem weight_eq (st : St) : st.weight = bodyBytes st.pend := by
  unfold St.weight St.pend; split <;> simp [*, bodyBytes]; omega

theorem bodyBytes_append (a b : Script) : bodyBytes (a ++ b) = bodyBytes a + bodyBytes b := by
  induction a with
  | nil => simp [bodyBytes]
  | cons x r ih => cases x <;> simp [bodyBytes, ih] <;> omega

theorem kvsOf_msg (k b : Bytes) (s : Script) (hb : b ≠ []) : kvsOf (.msg k b :: s) = ⟨k, b⟩ :: kvsOf s := by
  simp [kvsOf, curKVs, hb]

theorem kvsOf_append (a b : Script) : kvsOf (a ++ b) = kvsOf a ++ kvsOf b := by
  induction a with
  | nil => rfl
  | cons x r ih => cases x <;> simp [kvsOf, ih]

theorem messages_eq (s : Script) : messages s = pairs (kvsOf s) := by
  induction s with
  | nil => rfl
  | cons x r ih =>
    cases x with
    | yield => simpa [messages, kvsOf] using ih
    | msg k b => by_cases hb : b = [] <;> simp [messages, kvsOf, curKVs, hb, ih, pairs]

/-! ### ChunkWriter/UnchunkReader against the reference merge -/

/-- The step of `mergeConsecutive`: one message in front of merged ones. -/
def glue (p : Bytes × Bytes) : List (Bytes × Bytes) → List (Bytes × Bytes)
  | [] => [p]
  | q :: t => if p.1 = q.1 then (p.1, p.2 ++ q.2) :: t else p :: q :: t

theorem mc_cons (p : Bytes × Bytes) (l : List (Bytes × Bytes)) :
    mergeConsecutive (p :: l) = glue p (mergeConsecutive l) := by
  rw [mergeConsecutive]
  cases mergeConsecutive l <;> rfl

theorem mc_append (a b : List (Bytes × Bytes)) : mergeConsecutive (a ++ b) = a.foldr glue (mergeConsecutive b) := by
  induction a with
  | nil => rfl
  | cons p r ih => rw [List.cons_append, mc_cons, ih, List.foldr_cons]

theorem glue_glue (k v v' : Bytes) (x : List (Bytes × Bytes)) : glue (k, v) (glue (k, v') x) = glue (k, v ++ v') x := by
  cases x with
  | nil => simp [glue]
  | cons q t => by_cases h : k = q.1 <;> simp [glue, h]

theorem mc_left (a b : List (Bytes × Bytes)) : mergeConsecutive (mergeConsecutive a ++ b) = mergeConsecutive (a ++ b) := by
  have comm : ∀ (p : Bytes × Bytes) (l z : List (Bytes × Bytes)), (glue p l).foldr glue z = glue p (l.foldr glue z) := by
    intro p l z
    cases l with
    | nil => rfl
    | cons q t =>
      obtain ⟨k, v⟩ := p
      obtain ⟨k', v'⟩ := q
      by_cases h : k = k'
      · subst h
        rw [show glue (k, v) ((k, v') :: t) = (k, v ++ v') :: t from if_pos rfl, List.foldr_cons, List.foldr_cons,
          glue_glue]
      · rw [show glue (k, v) ((k', v') :: t) = (k, v) :: (k', v') :: t from if_neg h]; rfl
  rw [mc_append, mc_append]
  induction a with
  | nil => rfl
  | cons p r ih => rw [mc_cons, comm, ih, List.foldr_cons]

theorem pairs_append (a b : List KV) : pairs (a ++ b) = pairs a ++ pairs b := by simp [pairs]

/-- `WriteChunk` with the pipe of `k` open, holding `v`, is the reference merge after a message `(k, v)`. -/
theorem merge_reasm (xs : List KV) (k v : Bytes) :
    mergeConsecutive ((k, v) :: pairs xs) = (k, v ++ (reasm k xs).1) :: (reasm k xs).2 := by
  induction xs generalizing k v with
  | nil => simp [pairs, reasm, mergeConsecutive]
  | cons c cs ih =>
    rw [show pairs (c :: cs) = (c.key, c.val) :: pairs cs from rfl, mc_cons, ih c.key c.val]
    by_cases hk : c.key = k
    · simp [glue, reasm, hk]
    · simp [glue, reasm, hk, Ne.symm hk]

/-- With no pipe open and no empty key, `WriteChunk` produces the consecutive merge of the chunks. -/
theorem reasm_eq_mc (kvs : List KV) (h : ∀ c ∈ kvs, c.key ≠ []) : (reasm [] kvs).2 = mergeConsecutive (pairs kvs) := by
  cases kvs with
  | nil => rfl
  | cons c r =>
    rw [show pairs (c :: r) = (c.key, c.val) :: pairs r from rfl, merge_reasm]
    simp [reasm, h c List.mem_cons_self]

theorem reassemble_ok (xs : List KV) (h : ∀ c ∈ xs, c.key ≠ []) : reassemble xs = .ok (reasm [] xs).2 := by
  cases xs with
  | nil => rfl
  | cons c cs => simp [reassemble, h c List.mem_cons_self]

theorem reassemble_eq_merge (xs : List KV) (h : ∀ c ∈ xs, c.key ≠ []) :
    reassemble xs = .ok (mergeConsecutive (pairs xs)) := by
  rw [reassemble_ok xs h, reasm_eq_mc xs h]

/-- Two chunk lists that `WriteChunk` cannot tell apart, whatever it wrote before. (No proof goes through this
relation: `Takes.merge` compares the reference merges directly.) -/
def Eqv (xs ys : List KV) : Prop := ∀ prev, reasm prev xs = reasm prev ys

theorem Eqv.symm {xs ys : List KV} (h : Eqv xs ys) : Eqv ys xs := fun p => (h p).symm

/-! ### what one read reports -/

theorem readChunk_fits {V : Variant} {st : St} {size : Nat} {c : KV} {st' : St}
    (h : readChunk V st size = (.kv c, st')) : kvSize c ≤ size ∧ 1 ≤ c.val.length := by
  obtain ⟨_, _, _, _, hh⟩ := readChunk_spec h
  cases hh with | kv _ h1 h2 => exact ⟨h2, h1⟩

theorem readChunk_mid {V : Variant} {st : St} {size : Nat} {res : Res} {st' : St}
    (h : readChunk V st size = (res, st')) :
    (∀ c, res = .kv c → st'.mid = true) ∧ (res = .tooSmall → st'.mid = false) := by
  obtain ⟨_, _, _, _, hh⟩ := readChunk_spec h
  cases hh <;> simp [*]

/-- The key can be read in full whatever `size` is. -/
abbrev RdP (V : Variant) : Bytes → Prop := fun k => ∀ size, keyRead (V.keyLimit size) k.length = .ok

theorem readChunk_nofail {V : Variant} {st : St} {size : Nat} {st' : St} (hk : KeysP (RdP V) st) :
    readChunk V st size ≠ (.fail, st') := by
  intro h
  obtain ⟨pre, s, hq, _, hh⟩ := readChunk_spec h
  cases hh with
  | fail he hf => rw [hk _ _ (hq ▸ he ▸ List.mem_append_right _ List.mem_cons_self) size] at hf; cases hf

/-- With the forced break skipped in an empty message, a read at a size that fits every key
never reports `ErrSizeTooSmall` while the message is empty. -/
theorem readChunk_nosmall {V : Variant} {st : St} {size : Nat} {st' : St} (hskip : V.skipLeadingBreak = true)
    (hmid : st.mid = false) (hk : KeysP (fun k => 0 < avail size k) st) :
    readChunk V st size ≠ (.tooSmall, st') := by
  intro h
  obtain ⟨pre, s, hq, _, hh⟩ := readChunk_spec h
  cases hh with
  | small he _ hor =>
    rcases hor with hor | ⟨k, b, hc, h0⟩
    · simp [hskip, hmid] at hor
    · have := hk k b (by rw [hq, he]; simp [St.pend, hc])
      omega

/-! ### what a run of reads does to the script -/

/-- A reader that reads may pass without reporting anything of it: a forced break, a reader with nothing left, or one whose
key cannot be read at some size (its body is the loss in the code as found). `Takes`, like `OneRead`, says what a run of
reads CAN do, not what it must: it allows more than the functions do. -/
def Skips (V : Variant) : Step → Prop
  | .yield => True
  | .msg k b => b = [] ∨ ¬ RdP V k

/-- What reads at any sizes, one after another, can do to the readers `s`: skip some, and take non-empty pieces off
the front of message bodies, in order, as the chunks `cs`; `s'` is what they leave. Sizes and the grouping into
messages are forgotten, so this composes (`Takes.trans`) where `OneRead` does not. A reader whose body is used up
stays in front (`kv` with `r = []`) and is skipped by the next step. -/
inductive Takes (V : Variant) : Script → List KV → Script → Prop
  | refl (s : Script) : Takes V s [] s
  | skip {x s cs s'} : Skips V x → Takes V s cs s' → Takes V (x :: s) cs s'
  | kv {k v r s cs s'} : v ≠ [] → Takes V (.msg k r :: s) cs s' → Takes V (.msg k (v ++ r) :: s) (⟨k, v⟩ :: cs) s'

def Res.kvs : Res → List KV
  | .kv c => [c]
  | _ => []

theorem Passed.skips {V : Variant} {size : Nat} {x : Step} (h : Passed V size x) : Skips V x := by
  cases x with
  | yield => trivial
  | msg k b => exact h.imp_right fun he hr => by rw [hr size] at he; cases he

theorem Takes.skip_prefix {V : Variant} {pre s s' : Script} {cs : List KV} (hp : ∀ x ∈ pre, Skips V x)
    (h : Takes V s cs s') : Takes V (pre ++ s) cs s' := by
  induction pre with
  | nil => exact h
  | cons x r ih => exact .skip (hp x List.mem_cons_self) (ih fun y hy => hp y (List.mem_cons_of_mem _ hy))

theorem readChunk_takes {V : Variant} {st : St} {size : Nat} {res : Res} {st' : St}
    (h : readChunk V st size = (res, st')) : Takes V st.pend res.kvs st'.pend := by
  obtain ⟨pre, s, hq, hp, hh⟩ := readChunk_spec h
  rw [hq]
  refine Takes.skip_prefix (fun x hx => (hp x hx).skips) ?_
  cases hh with
  | eof hs he => rw [hs, he]; exact .refl _
  | small he => rw [he]; exact .refl _
  | fail he hf => rw [he]; exact .skip (.inr fun hr => by rw [hr size] at hf; cases hf) (.refl _)
  | kv he h1 _ _ hp =>
    rw [he]
    refine .kv (List.ne_nil_of_length_pos h1) ?_
    rcases hp with ⟨hp, rfl⟩ | hp <;> rw [hp]
    · exact .skip (.inl rfl) (.refl _)
    · exact .refl _

theorem Takes.trans {V : Variant} {s t u : Script} {a b : List KV} (h1 : Takes V s a t) (h2 : Takes V t b u) :
    Takes V s (a ++ b) u := by
  induction h1 with
  | refl => exact h2
  | skip hx _ ih => exact .skip hx (ih h2)
  | kv hv _ ih => exact .kv hv (ih h2)

theorem keys_of_body {P : Bytes → Prop} {k b b' : Bytes} {s : Script} (h : ∀ k' c, Step.msg k' c ∈ Step.msg k b :: s → P k') :
    ∀ k' c, Step.msg k' c ∈ Step.msg k b' :: s → P k' := fun k' c hm =>
  (List.mem_cons.1 hm).elim (fun e => by cases e; exact h k b List.mem_cons_self) fun hm => h k' c (List.mem_cons_of_mem _ hm)

theorem Takes.keys {P : Bytes → Prop} {V : Variant} {s s' : Script} {cs : List KV} (h : Takes V s cs s')
    (hP : ∀ k b, Step.msg k b ∈ s → P k) : (∀ k b, Step.msg k b ∈ s' → P k) ∧ ∀ c ∈ cs, P c.key := by
  induction h with
  | refl => exact ⟨hP, nofun⟩
  | skip _ _ ih => exact ih fun k b hm => hP k b (List.mem_cons_of_mem _ hm)
  | kv _ _ ih =>
    have ih := ih (keys_of_body hP)
    exact ⟨ih.1, List.forall_mem_cons.2 ⟨hP _ _ List.mem_cons_self, ih.2⟩⟩

/-- Every chunk takes at least one body byte, nothing ever adds one. -/
theorem Takes.weight {V : Variant} {s s' : Script} {cs : List KV} (h : Takes V s cs s') :
    bodyBytes s' + cs.length ≤ bodyBytes s := by
  induction h with
  | refl => simp
  | @skip x s cs s' _ _ ih => cases x <;> simp only [bodyBytes] <;> omega
  | @kv k v r s cs s' hv _ ih =>
    have := List.length_pos_iff.2 hv
    simp only [bodyBytes, List.length_append, List.length_cons] at ih ⊢
    omega

/-- If every key can be read in full, what was skipped held nothing; and the merge glues a piece taken off the
front of a body back on (`glue_glue`). So the chunks taken, followed by what the script still owes, merge to the
script's messages. -/
theorem Takes.merge {V : Variant} {s s' : Script} {cs : List KV} (h : Takes V s cs s')
    (hk : ∀ k b, Step.msg k b ∈ s → RdP V k) :
    mergeConsecutive (pairs (cs ++ kvsOf s')) = mergeConsecutive (pairs (kvsOf s)) := by
  induction h with
  | refl => rfl
  | @skip x s cs s' hx _ ih =>
    have ih := ih fun k b hm => hk k b (List.mem_cons_of_mem _ hm)
    cases x with
    | yield => exact ih
    | msg k b =>
      rcases hx with rfl | hx
      · simpa [kvsOf, curKVs] using ih
      · exact absurd (hk k b List.mem_cons_self) hx
  | @kv k v r s cs s' hv _ ih =>
    rw [kvsOf_msg k (v ++ r) s (by simp [hv])]
    show mergeConsecutive ((k, v) :: pairs (cs ++ kvsOf s')) = mergeConsecutive ((k, v ++ r) :: pairs (kvsOf s))
    rw [mc_cons, ih (keys_of_body hk), mc_cons]
    by_cases hr : r = []
    · subst hr; simp [kvsOf, curKVs]
    · rw [kvsOf_msg k r s hr]
      show glue (k, v) (mergeConsecutive ((k, r) :: pairs (kvsOf s))) = _
      rw [mc_cons, glue_glue]

/-! ### one message, one round

`fun_induction` numbers the cases in the order of the definition's branches. `pack`: no fuel, `.eof`,
`.tooSmall`, `.fail`, `.kv`; `rounds`: no fuel, `.eof`, `.stop`, `.fail`, `.fuel`, `.more`. -/

theorem pack_sum (V : Variant) (mtu f maxRead : Nat) (st : St) :
    sumSize (pack V mtu f maxRead st).1 ≤ maxRead := by
  fun_induction pack V mtu f maxRead st with
  | case5 f maxRead st c st' hr r ih =>
    have := (readChunk_fits hr).1; simp only [sumSize, r]; omega
  | _ => simp [sumSize]

theorem flatten_cons (b : Batch) (bs : List Batch) : flatten (b :: bs) = b.kvs ++ flatten bs := rfl

theorem rounds_sum (V : Variant) (mtu f : Nat) (st : St) :
    ∀ b ∈ (rounds V mtu f st).batches, sumSize b.kvs ≤ mtu := by
  fun_induction rounds V mtu f st with
  | case2 f st cs st' h | case3 f st cs st' h =>
    have hp := pack_sum V mtu (mtu + 1) mtu st; rw [h] at hp; simpa using hp
  | case6 f st cs st' h r ih =>
    have hp := pack_sum V mtu (mtu + 1) mtu st; rw [h] at hp; simpa using ⟨hp, ih⟩
  | _ => simp

/-- Every 68 of a round but the last says IsMoreServiceInfo, the last does not. -/
def LastOnly : List Batch → Prop
  | [] => False
  | [b] => b.more = false
  | b :: c :: r => b.more = true ∧ LastOnly (c :: r)

theorem rounds_lastOnly {V : Variant} {mtu f : Nat} {st : St} (h : (rounds V mtu f st).fin = .done) :
    LastOnly (rounds V mtu f st).batches := by
  fun_induction rounds V mtu f st with
  | case2 => rfl
  | case6 f st cs st' hp r ih =>
    have := ih h
    cases hb : r.batches with
    | nil => rw [hb] at this; exact this.elim
    | cons c t => rw [hb] at this; exact ⟨rfl, this⟩
  | _ => cases h

theorem pack_takes (V : Variant) (mtu f maxRead : Nat) (st : St) :
    Takes V st.pend (pack V mtu f maxRead st).1 (pack V mtu f maxRead st).2.2.pend := by
  fun_induction pack V mtu f maxRead st with
  | case1 => exact .refl _
  | case5 f maxRead st c st' hr r ih => exact (readChunk_takes hr).trans ih
  | case2 f maxRead st st' hr | case3 f maxRead st st' hr | case4 f maxRead st st' hr => exact readChunk_takes hr

theorem pack_eof (V : Variant) (mtu f maxRead : Nat) (st : St) (h : (pack V mtu f maxRead st).2.1 = .eof) :
    (pack V mtu f maxRead st).2.2.pend = [] := by
  fun_induction pack V mtu f maxRead st with
  | case2 f maxRead st st' hr =>
    obtain ⟨_, _, _, _, hh⟩ := readChunk_spec hr
    cases hh with | eof _ he => exact he
  | case3 => split at h <;> cases h
  | case5 f maxRead st c st' hr r ih => exact ih h
  | _ => cases h

theorem rounds_takes (V : Variant) (mtu f : Nat) (st : St) (hd : (rounds V mtu f st).fin = .done) :
    Takes V st.pend (flatten (rounds V mtu f st).batches) [] := by
  fun_induction rounds V mtu f st with
  | case2 f st cs st' h =>
    have ht := pack_takes V mtu (mtu + 1) mtu st
    have he := pack_eof V mtu (mtu + 1) mtu st (by rw [h])
    rw [h] at ht he
    simpa [flatten, he] using ht
  | case6 f st cs st' h r ih =>
    have ht := pack_takes V mtu (mtu + 1) mtu st; rw [h] at ht
    exact ht.trans (ih hd)
  | _ => cases hd

/-! ### progress -/

/-- A key that can always be read, fits an empty message of `mtu` with one value byte, and is
not the empty string. -/
def UK (V : Variant) (mtu : Nat) : Bytes → Prop :=
  fun k => RdP V k ∧ rawKeyLen k + 3 ≤ mtu ∧ k ≠ []

theorem KeysP.mono {P Q : Bytes → Prop} (h : ∀ k, P k → Q k) {st : St} (hP : KeysP P st) : KeysP Q st :=
  fun k b hm => h k (hP k b hm)

theorem pack_more_mid (V : Variant) (mtu f maxRead : Nat) (st : St)
    (h : (pack V mtu f maxRead st).2.1 = .more) : (pack V mtu f maxRead st).2.2.mid = false := by
  fun_induction pack V mtu f maxRead st with
  | case3 f maxRead st st' hr => exact (readChunk_mid hr).2 rfl
  | case5 f maxRead st c st' hr r ih => exact ih h
  | _ => cases h

/-- A message ends with the channel drained or with IsMore = true, and one that started on the full budget and
says IsMore = true carries a chunk. -/
theorem pack_progress (V : Variant) (hskip : V.skipLeadingBreak = true) (mtu f maxRead : Nat) (st : St)
    (hf : maxRead < f) (hle : maxRead ≤ mtu) (hk : KeysP (UK V mtu) st)
    (hmid : maxRead = mtu → st.mid = false) :
    ((pack V mtu f maxRead st).2.1 = .eof ∨ (pack V mtu f maxRead st).2.1 = .more) ∧
    ((pack V mtu f maxRead st).2.1 = .more → maxRead = mtu → (pack V mtu f maxRead st).1 ≠ []) := by
  fun_induction pack V mtu f maxRead st with
  | case1 => omega
  | case2 => simp
  | case3 f maxRead st st' hr =>
    by_cases hm : maxRead = mtu
    · exact absurd hr (readChunk_nosmall hskip (hmid hm) (hk.mono fun k h => by rw [avail_pos_iff, hm]; exact h.2.1))
    · rw [if_neg hm]
      exact ⟨.inr rfl, fun _ => (absurd · hm)⟩
  | case4 f maxRead st st' hr => exact absurd hr (readChunk_nofail (hk.mono fun k h => h.1))
  | case5 f maxRead st c st' hr r ih =>
    have hfit := readChunk_fits hr
    have hpos := kvSize_pos c
    -- after a KV the budget is below `mtu`, so the hypothesis on `mid` is void for the rest of the message
    have ih := ih (by omega) (by omega) ((readChunk_takes hr).keys hk).1 (fun h => by omega)
    exact ⟨ih.1, fun _ _ => List.cons_ne_nil _ _⟩

/-- Every message of the round but the last takes a body byte, so the weight bounds the number of messages. -/
theorem rounds_done (V : Variant) (hskip : V.skipLeadingBreak = true) (mtu f : Nat) (st : St)
    (hf : st.weight < f) (hk : KeysP (UK V mtu) st) (hmid : st.mid = false) :
    (rounds V mtu f st).fin = .done := by
  fun_induction rounds V mtu f st with
  | case1 => omega
  | case2 => rfl
  | case6 f st cs st' h r ih =>
    have hp := pack_progress V hskip mtu (mtu + 1) mtu st (by omega) (Nat.le_refl _) hk (fun _ => hmid)
    have ht := pack_takes V mtu (mtu + 1) mtu st
    have hm := pack_more_mid V mtu (mtu + 1) mtu st (by rw [h])
    rw [h] at hp ht hm
    have hw : bodyBytes st'.pend + cs.length ≤ bodyBytes st.pend := ht.weight
    have hcs : 0 < cs.length := List.length_pos_iff.2 (hp.2 rfl rfl)
    rw [weight_eq] at hf
    exact ih (by rw [weight_eq]; omega) (ht.keys hk).1 hm
  | case3 f st cs st' h | case4 f st cs st' h | case5 f st cs st' h =>
    have hp := pack_progress V hskip mtu (mtu + 1) mtu st (by omega) (Nat.le_refl _) hk (fun _ => hmid)
    rw [h] at hp; simp at hp

/-! ### from the guard to the invariants -/

theorem usable_iff (mtu : Nat) (s : Script) :
    UsableMtu mtu s ↔ mtu < 65536 ∧ ∀ k b, Step.msg k b ∈ s → 1 ≤ k.length ∧ rawKeyLen k + 3 ≤ mtu := by
  unfold UsableMtu usable
  simp only [Bool.and_eq_true, decide_eq_true_eq, List.all_eq_true]
  refine and_congr_right fun _ => ⟨fun h k b hm => by simpa using h _ hm, fun h x hx => ?_⟩
  cases x with
  | yield => rfl
  | msg k b => simpa using h k b hx

theorem keyRead_ok (limit : Nat) (k : Bytes) (h : rawKeyLen k ≤ limit) : keyRead limit k.length = .ok := by
  unfold keyRead rawKeyLen at *
  simp [h]

/-- Whatever the variant does with forced breaks: if every key can be read in full and the round
reaches the end of the channel, no chunk has an empty key and the chunks of all the messages of the round,
consecutive equal keys concatenated, are the script's messages merged in the same way. -/
theorem lossless_of_done (V : Variant) (mtu : Nat) (s : Script)
    (hk : ∀ k b, Step.msg k b ∈ s → k ≠ [] ∧ ∀ size, keyRead (V.keyLimit size) k.length = .ok)
    (hd : (allBatches V mtu s).fin = .done) :
    (∀ c ∈ flatten (allBatches V mtu s).batches, c.key ≠ []) ∧
    mergeConsecutive (pairs (flatten (allBatches V mtu s).batches)) = mergeConsecutive (messages s) := by
  unfold allBatches at *
  have ht : Takes V s _ [] := rounds_takes V mtu (bodyBytes s + 1) (St.init s) hd
  have he := ht.merge fun k b hm => (hk k b hm).2
  rw [kvsOf, List.append_nil] at he
  exact ⟨(ht.keys fun k b hm => (hk k b hm).1).2, by rw [messages_eq, he]⟩

theorem usable_keys (mtu : Nat) (s : Script) (hu : UsableMtu mtu s) :
    ∀ k b, Step.msg k b ∈ s → UK .repaired mtu k := by
  intro k b hm
  obtain ⟨hm16, hs⟩ := (usable_iff mtu s).1 hu
  have := hs k b hm
  exact ⟨fun _ => keyRead_ok _ k (by simp [Variant.repaired]; omega), this.2, fun h0 => by simp [h0] at this⟩

theorem repaired_done (mtu : Nat) (s : Script) (hu : UsableMtu mtu s) :
    (allBatches .repaired mtu s).fin = .done :=
  rounds_done .repaired rfl mtu _ (St.init s) (weight_eq _ ▸ Nat.lt_succ_self _)
    (usable_keys mtu s hu) rfl

theorem lossless_repaired (mtu : Nat) (s : Script) (hu : UsableMtu mtu s) :
    (allBatches .repaired mtu s).fin = .done ∧
    (∀ c ∈ flatten (allBatches .repaired mtu s).batches, c.key ≠ []) ∧
    mergeConsecutive (pairs (flatten (allBatches .repaired mtu s).batches)) = mergeConsecutive (messages s) :=
  have hk := usable_keys mtu s hu
  have hd := repaired_done mtu s hu
  ⟨hd, lossless_of_done .repaired mtu s (fun k b hm => ⟨(hk k b hm).2.2, (hk k b hm).1⟩) hd⟩

/-! ### producer writes -/

theorem compileAux_write_nil (post : List Op) : compileAux (.write [] :: post) = compileAux post := by
  simp [compileAux]

theorem compileAux_write_append (a b : Bytes) (post : List Op) :
    compileAux (.write (a ++ b) :: post) = compileAux (.write a :: .write b :: post) := by
  simp [compileAux, List.append_assoc]

theorem compileAux_congr (pre : List Op) {x y : List Op} (h : compileAux x = compileAux y) :
    compileAux (pre ++ x) = compileAux (pre ++ y) := by
  induction pre with
  | nil => exact h
  | cons o t ih => cases o <;> simp [compileAux, ih]

theorem compileAux_parts (parts : List Bytes) (post : List Op) :
    compileAux (.write parts.flatten :: post) = compileAux (parts.map Op.write ++ post) := by
  induction parts with
  | nil => simp [compileAux]
  | cons p ps ih => rw [List.flatten_cons, compileAux_write_append]; exact compileAux_congr [.write p] ih

theorem compile_parts (pre post : List Op) (parts : List Bytes) :
    compile (pre ++ .write parts.flatten :: post) = compile (pre ++ (parts.map Op.write ++ post)) := by
  unfold compile
  rw [compileAux_congr pre (compileAux_parts parts post)]

/-- The next call opens a message or forces a break (so nothing more is written to the message before). -/
def Starts : List Op → Prop
  | .write _ :: _ => False
  | _ => True

theorem compile_append (a b : List Op) (h : Starts b) : compile (a ++ b) = compile a ++ compile b := by
  have hb : (compileAux b).1 = [] := by
    cases b with
    | nil => rfl
    | cons o r =>
      cases o with
      | write _ => exact h.elim
      | _ => rfl
  have : compileAux (a ++ b) = ((compileAux a).1, (compileAux a).2 ++ (compileAux b).2) := by
    induction a with
    | nil => exact Prod.ext hb rfl
    | cons o r ih => cases o <;> simp [compileAux, ih]
  simp [compile, this]

theorem compile_yield (rest : List Op) : compile (.yield :: rest) = .yield :: compile rest := by
  simp [compile, compileAux]

theorem compile_next_write (k v : Bytes) (rest : List Op) (h : Starts rest) :
    compile (.next k :: .write v :: rest) = .msg k v :: compile rest := by
  rw [show Op.next k :: .write v :: rest = [.next k, .write v] ++ rest from rfl, compile_append _ _ h]
  simp [compile, compileAux]

/-! ### a yield is a barrier between messages -/

/-- The same reader state with more readers queued behind. -/
def St.app (st : St) (r : Script) : St := ⟨st.queue ++ r, st.cur, st.mid⟩

theorem readBody_append (size : Nat) (key rest : Bytes) (q r : Script) :
    readBody size key rest (q ++ r) = (readBody size key rest q).map (fun p => (p.1, p.2.app r)) := by
  simp only [readBody, apply_ite (Option.map _), Option.map_some, Option.map_none]
  rfl

theorem readBody_ne_eof {size : Nat} {key rest : Bytes} {q : Script} {r0 : Res × St}
    (h : readBody size key rest q = some r0) : r0.1 ≠ .eof := by
  -- `readBody` answers `.tooSmall`, nothing, or a chunk (twice)
  rcases readBody_spec size key rest q with ⟨_, hb⟩ | ⟨_, _, hb⟩ | ⟨_, _, _, hb⟩ | ⟨_, _, hb⟩ <;> rw [hb] at h
  · cases h; nofun
  · cases h
  · cases h; nofun
  · cases h; nofun

/-- Readers queued behind are not looked at before the channel would have been empty. -/
theorem readNext_append (V : Variant) (size : Nat) (mid : Bool) (q r : Script) :
    readNext V size mid (q ++ r) =
      if (readNext V size mid q).1 = .eof then readNext V size mid r
      else ((readNext V size mid q).1, (readNext V size mid q).2.app r) := by
  -- numbering as in `readNext_spec`: 7 body read, 8 body empty
  fun_induction readNext V size mid q
  case case7 hkr r0 hb => simp [readNext, hkr, readBody_append, hb, readBody_ne_eof hb]
  case case8 hkr hb ih => simpa [readNext, hkr, readBody_append, hb] using ih
  all_goals simp_all [readNext, St.app]

theorem readChunk_append (V : Variant) (st : St) (size : Nat) (r : Script) :
    readChunk V (st.app r) size =
      if (readChunk V st size).1 = .eof then readNext V size st.mid r
      else ((readChunk V st size).1, (readChunk V st size).2.app r) := by
  fun_cases readChunk V st size with
  | case1 hc => rw [readChunk_none V size (st := st.app r) hc]; exact readNext_append V size st.mid st.queue r
  | case2 key rest hc r0 hb =>
    have hba := readBody_append size key rest st.queue r
    rw [hb] at hba
    rw [readChunk_some_some V (st := st.app r) hc hba]
    simp [readBody_ne_eof hb]
  | case3 key rest hc hb =>
    have hba := readBody_append size key rest st.queue r
    rw [hb] at hba
    rw [readChunk_some_none V (st := st.app r) hc hba]
    exact readNext_append V size st.mid st.queue r

theorem pack_succ (V : Variant) (mtu f maxRead : Nat) (st : St) :
    pack V mtu (f + 1) maxRead st =
      match readChunk V st maxRead with
      | (.eof, st') => ([], .eof, st')
      | (.tooSmall, st') => ([], if maxRead = mtu then .stop else .more, st')
      | (.fail, st') => ([], .fail, st')
      | (.kv c, st') =>
        ((c :: (pack V mtu f (maxRead - kvSize c) st').1), (pack V mtu f (maxRead - kvSize c) st').2.1,
          (pack V mtu f (maxRead - kvSize c) st').2.2) := by
  rfl

/-- One message of the round, with `yield :: post` queued behind what `st` holds: nothing changes
until the channel would have been empty; there the yield closes the message if it holds a chunk
and is skipped if it is still empty. -/
theorem pack_append_yield (V : Variant) (hskip : V.skipLeadingBreak = true) (mtu : Nat) (post : Script)
    (f maxRead : Nat) (st : St)
    -- `mid` is set exactly while the message being filled holds a chunk
    (hI : st.mid = true ↔ maxRead ≠ mtu) (hle : maxRead ≤ mtu) :
    pack V mtu f maxRead (st.app (.yield :: post)) =
      if (pack V mtu f maxRead st).2.1 = .eof then
        if st.mid = true ∨ (pack V mtu f maxRead st).1 ≠ [] then
          ((pack V mtu f maxRead st).1, .more, ⟨post, none, false⟩)
        else pack V mtu f mtu ⟨post, none, false⟩
      else ((pack V mtu f maxRead st).1, (pack V mtu f maxRead st).2.1,
            (pack V mtu f maxRead st).2.2.app (.yield :: post)) := by
  fun_induction pack V mtu f maxRead st with
  | case1 => simp [pack]
  | case2 f maxRead st st' hr =>
    -- the channel of `st` is empty: the yield is read next
    rw [pack_succ, readChunk_append, hr, if_pos rfl, readNext]
    cases hm : st.mid with
    | false =>
      have : maxRead = mtu := Decidable.by_contra fun h => by simp [hI.2 h] at hm
      -- the message is still empty: the yield is skipped, and reading on is what `pack` on `post` does first
      simp [hskip, this, pack_succ, readChunk]
    | true => simp [hI.1 hm]
  | case3 f maxRead st st' hr =>
    rw [pack_succ, readChunk_append, hr]; by_cases hmm : maxRead = mtu <;> simp [hmm]
  | case4 f maxRead st st' hr => rw [pack_succ, readChunk_append, hr]; simp
  | case5 f maxRead st c st' hr r ih =>
    have hfit := (readChunk_fits hr).1
    have hpos := kvSize_pos c
    have hmid := (readChunk_mid hr).1 c rfl
    rw [pack_succ, readChunk_append, hr, if_neg nofun]
    simp only [ih (by simp [hmid]; omega) (by omega), r]
    split <;> simp [hmid]

theorem rounds_succ (V : Variant) (mtu f : Nat) (st : St) :
    rounds V mtu (f + 1) st =
      match pack V mtu (mtu + 1) mtu st with
      | (cs, .eof, st') => ⟨[⟨false, cs⟩], .done, st'⟩
      | (cs, .stop, st') => ⟨[⟨false, cs⟩], .stopped, st'⟩
      | (_, .fail, st') => ⟨[], .failed, st'⟩
      | (_, .fuel, st') => ⟨[], .fuel, st'⟩
      | (cs, .more, st') =>
        ⟨⟨true, cs⟩ :: (rounds V mtu f st').batches, (rounds V mtu f st').fin, (rounds V mtu f st').st⟩ := by
  rfl

/-- More fuel than needed changes nothing. -/
theorem rounds_fuel (V : Variant) (mtu f k : Nat) (st : St) (h : (rounds V mtu f st).fin ≠ .fuel) :
    rounds V mtu (f + k) st = rounds V mtu f st := by
  fun_induction rounds V mtu f st with
  | case1 => exact absurd rfl h
  | case6 f st cs st' hp r ih => rw [show f.succ + k = f + k + 1 by omega, rounds_succ, hp]; simp only [ih h, r]
  | case2 f st cs st' hp | case3 f st cs st' hp | case4 f st cs st' hp | case5 f st cs st' hp =>
    rw [show f.succ + k = f + k + 1 by omega, rounds_succ, hp]

/-- The non-empty messages as lists of chunks. -/
def groups (bs : List Batch) : List (List KV) := (bs.map (·.kvs)).filter (fun l => !l.isEmpty)

theorem groups_cons (b : Batch) (bs : List Batch) :
    groups (b :: bs) = (if b.kvs = [] then [] else [b.kvs]) ++ groups bs := by
  simp only [groups, List.map_cons, List.filter_cons]
  split <;> simp_all

/-- A round on `st` that drains its channel, with `yield :: post` queued behind: the same messages,
then those of a round on `post` alone (the message that ended with the channel empty is closed by the
yield instead, or, if it was empty, goes on into `post`). -/
theorem rounds_append_yield (V : Variant) (hskip : V.skipLeadingBreak = true) (mtu : Nat) (post : Script)
    (f g : Nat) (st : St) (hmid : st.mid = false) (hd : (rounds V mtu f st).fin = .done)
    (hg : (rounds V mtu g ⟨post, none, false⟩).fin ≠ .fuel) :
    groups (rounds V mtu (f + g) (st.app (.yield :: post))).batches =
      groups (rounds V mtu f st).batches ++ groups (rounds V mtu g ⟨post, none, false⟩).batches := by
  fun_induction rounds V mtu f st with
  | case2 f st cs st' hp =>
    have hP := pack_append_yield V hskip mtu post (mtu + 1) mtu st (by simp [hmid]) (Nat.le_refl _)
    rw [hp] at hP
    rw [show f.succ + g = f + g + 1 by omega, rounds_succ, hP]
    by_cases hcs : cs = []
    · -- the empty message goes on into `post`: the round on `post` starts here, with fuel to spare
      rw [if_pos rfl, if_neg (by simp [hcs, hmid]), ← rounds_succ, show f + g + 1 = g + (f + 1) by omega,
        rounds_fuel V mtu g (f + 1) _ hg]
      simp [hcs, groups]
    · rw [← rounds_fuel V mtu g f _ hg, Nat.add_comm g f]
      simp [hcs, groups]
  | case6 f st cs st' hp r ih =>
    have hP := pack_append_yield V hskip mtu post (mtu + 1) mtu st (by simp [hmid]) (Nat.le_refl _)
    have hm := pack_more_mid V mtu (mtu + 1) mtu st (by rw [hp])
    rw [hp] at hP hm
    rw [show f.succ + g = f + g + 1 by omega, rounds_succ, hP]
    simp only [reduceCtorEq, if_false, groups_cons, ih hm hd, r, List.append_assoc]
  | _ => cases hd

theorem usable_append (mtu : Nat) (a b : Script) (h : UsableMtu mtu (a ++ b)) :
    UsableMtu mtu a ∧ UsableMtu mtu b := by
  simp only [usable_iff, List.mem_append] at h ⊢
  exact ⟨⟨h.1, fun k v hm => h.2 k v (.inl hm)⟩, h.1, fun k v hm => h.2 k v (.inr hm)⟩

/-- Batching a script with a yield in it = batching what precedes the yield, then what follows it. -/
theorem yield_groups (mtu : Nat) (pre post : Script) (hu : UsableMtu mtu (pre ++ .yield :: post)) :
    groups (allBatches .repaired mtu (pre ++ .yield :: post)).batches =
      groups (allBatches .repaired mtu pre).batches ++ groups (allBatches .repaired mtu post).batches := by
  obtain ⟨hpre, hpost⟩ := usable_append mtu pre _ hu
  have hpost := (usable_append mtu [.yield] post hpost).2
  have hdAll := repaired_done mtu _ hu
  have hdPre := repaired_done mtu pre hpre
  have hdPost := repaired_done mtu post hpost
  unfold allBatches at *
  have hb := rounds_append_yield .repaired rfl mtu post (bodyBytes pre + 1) (bodyBytes post + 1)
    (St.init pre) rfl hdPre (by rw [show (⟨post, none, false⟩ : St) = St.init post from rfl, hdPost]; nofun)
  -- the two parts together have one more unit of fuel than the whole needs
  have e : bodyBytes pre + 1 + (bodyBytes post + 1) = bodyBytes (pre ++ .yield :: post) + 1 + 1 := by
    simp [bodyBytes_append, bodyBytes]; omega
  rwa [e, show (St.init pre).app (.yield :: post) = St.init (pre ++ .yield :: post) from rfl,
    rounds_fuel _ _ _ 1 _ (by rw [hdAll]; nofun)] at hb

end Fdo.Svc.Chunk
