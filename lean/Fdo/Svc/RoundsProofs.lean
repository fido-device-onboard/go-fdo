import Fdo.Svc.Rounds
import Fdo.Svc.ChunkProofs
import Fdo.Cbor.Proofs
/-
Lemmas for C16 (Props/C16.lean holds the property theorems).

The devmod round rests on three facts that do not know of each other: the device writes whole messages, and a
script in which every message fits what is left of its 68 is packed without a split; the owner handles a 68 of
whole messages as if each KV came alone, and does not see the session store between two 68s; the messages handled
one after another rebuild the descriptors and the module list.  The rules for the logs are invariants of the two
state machines, each resting on one lemma that says what a single call does.
-/
namespace Fdo.Svc.Rounds
open Fdo Fdo.Cbor Fdo.Svc.Chunk

/-! ### the module-list chunker (device) -/

/-- All names of a chunk list, in order. -/
def catNames : List (Nat × List Bytes) → List Bytes
  | [] => []
  | c :: r => c.2 ++ catNames r

/-- Every chunk starts where the previous one ended. -/
def StartsOK : Nat → List (Nat × List Bytes) → Prop
  | _, [] => True
  | s, c :: r => c.1 = s ∧ StartsOK (s + c.2.length) r

/-- The two premises of the last part are about the chunk being filled on entry: it is not to stay empty, and it
passed the size test if it holds something. -/
theorem moduleChunks_spec {fits : Nat → List Bytes → Bool} {start : Nat} {cur rest : List Bytes}
    {cs : List (Nat × List Bytes)} (h : moduleChunks fits start cur rest = some cs) :
    catNames cs = cur ++ rest ∧ StartsOK start cs ∧
    ((cur = [] → rest ≠ []) → (cur ≠ [] → fits start cur = true) → ∀ c ∈ cs, c.2 ≠ [] ∧ fits c.1 c.2 = true) := by
  -- no name left; the name fits the chunk being filled; it does not and that chunk is empty (refused); the chunk is
  -- closed and the name opens the next; it does not fit a chunk of its own (refused)
  fun_induction moduleChunks fits start cur rest generalizing cs with
  | case1 start cur =>
    cases h
    exact ⟨by simp [catNames], ⟨rfl, trivial⟩, fun h0 h1 c hc => by
      have hne : cur ≠ [] := fun e => h0 e rfl
      simp only [List.mem_singleton] at hc; subst hc; exact ⟨hne, h1 hne⟩⟩
  | case2 start cur n rest h1 ih =>
    obtain ⟨hcat, hstarts, hall⟩ := ih h
    exact ⟨by simpa using hcat, hstarts, fun _ _ => hall (by simp) (fun _ => h1)⟩
  | case3 => cases h
  | case4 start cur n rest h1 h2 h3 ih =>
    cases hm : moduleChunks fits (start + cur.length) [n] rest with
    | none => simp [hm] at h
    | some cs' =>
      obtain ⟨hcat, hstarts, hall⟩ := ih hm
      simp only [hm, Option.map_some, Option.some.injEq] at h
      subst h
      refine ⟨by simp [catNames, hcat], ⟨rfl, hstarts⟩, fun _ hf x hx => ?_⟩
      rcases List.mem_cons.1 hx with rfl | hx
      · exact ⟨h2, hf h2⟩
      · exact hall (by simp) (fun _ => h3) x hx
  | case5 => cases h

/-- The chunker succeeds whenever every name fits a chunk of its own at every start index it can get. -/
theorem moduleChunks_isSome (fits : Nat → List Bytes → Bool) (N start : Nat) (cur rest : List Bytes)
    (hf : ∀ n ∈ rest, ∀ s, s ≤ N → fits s [n] = true) (hN : start + cur.length + rest.length ≤ N) :
    (moduleChunks fits start cur rest).isSome = true := by
  -- the cases as in `moduleChunks_spec`
  fun_induction moduleChunks fits start cur rest with
  | case1 => rfl
  | case2 start cur n rest h1 ih =>
    exact ih (fun m hm => hf m (List.mem_cons_of_mem _ hm)) (by simp at hN ⊢; omega)
  | case3 start n rest h1 =>
    exact absurd (hf n (List.mem_cons_self ..) start (by omega)) (by simpa using h1)
  | case4 start cur n rest h1 h2 h3 ih =>
    simpa using ih (fun m hm => hf m (List.mem_cons_of_mem _ hm)) (by simp at hN ⊢; omega)
  | case5 start cur n rest h1 h2 h3 =>
    exact absurd (hf n (List.mem_cons_self ..) _ (by simp at hN; omega)) h3

theorem chunkFits_repaired (B s : Nat) (ns : List Bytes) :
    chunkFits .repaired B s ns = true ↔ kvSize (chunkKV (s, ns)) ≤ B := by
  simp [chunkFits, Fixes.repaired]

theorem moduleChunks_total (fits : Nat → List Bytes → Bool) (names : List Bytes) (hne : names ≠ [])
    (hfit : ∀ n ∈ names, ∀ s, s ≤ names.length → fits s [n] = true) :
    ∃ cs, moduleChunks fits 0 [] names = some cs ∧ catNames cs = names ∧ StartsOK 0 cs ∧
      ∀ c ∈ cs, c.2 ≠ [] ∧ fits c.1 c.2 = true := by
  obtain ⟨cs, hcs⟩ := Option.isSome_iff_exists.1 (moduleChunks_isSome fits names.length 0 [] names hfit (by simp))
  obtain ⟨hcat, hstarts, hall⟩ := moduleChunks_spec hcs
  -- the chunk being filled on entry is empty, and names are left: the two premises of the last part
  exact ⟨cs, hcs, by simpa using hcat, hstarts, hall (fun _ => hne) (fun h => absurd rfl h)⟩

theorem startsOK_mem (cs : List (Nat × List Bytes)) : ∀ s, StartsOK s cs → ∀ c ∈ cs,
    c.1 + c.2.length ≤ s + (catNames cs).length ∧ ∀ n ∈ c.2, n ∈ catNames cs := by
  induction cs with
  | nil => intro _ _ c hc; cases hc
  | cons d r ih =>
    intro s h c hc
    simp only [catNames, List.length_append, List.mem_append]
    rcases List.mem_cons.1 hc with rfl | hc
    · exact ⟨by have := h.1; omega, fun n hn => Or.inl hn⟩
    · have := ih _ h.2 c hc
      exact ⟨by omega, fun n hn => Or.inr (this.2 n hn)⟩

/-! ### the module list at the owner, on decoded chunks -/

/-- `parseModules` on chunks that are already decoded. -/
def applyAll (F : Fixes) : List Bytes → List (Nat × List Bytes) → Out (List Bytes)
  | mods, [] => .ok mods
  | mods, c :: r =>
    match applyChunk F mods (Int.ofNat c.1) (Int.ofNat c.2.length) c.2 with
    | .ok m => applyAll F m r
    | .reject => .reject
    | .panic s => .panic s

theorem firstEmpty_fill (pre : List Bytes) (h : ∀ m ∈ pre, m ≠ []) (k : Nat) :
    firstEmpty (pre ++ List.replicate k []) = if k = 0 then none else some pre.length := by
  induction pre with
  | nil => cases k <;> simp [firstEmpty, List.replicate_succ]
  | cons m r ih =>
    have hm : m ≠ [] := h m (List.mem_cons_self ..)
    simp only [List.cons_append, firstEmpty, hm, if_false, ih (fun x hx => h x (List.mem_cons_of_mem _ hx))]
    split <;> simp

theorem applyChunk_fill (F : Fixes) (pre ns : List Bytes) (k : Nat)
    (hpre : ∀ m ∈ pre, m ≠ []) (hns : ∀ m ∈ ns, m ≠ []) :
    applyChunk F (pre ++ List.replicate (ns.length + k) []) (Int.ofNat pre.length) (Int.ofNat ns.length) ns =
      .ok ((pre ++ ns) ++ List.replicate k []) := by
  have hst : chunkStart (pre ++ List.replicate (ns.length + k) []) (Int.ofNat pre.length) = pre.length := by
    unfold chunkStart
    rw [firstEmpty_fill pre hpre]
    cases ns.length + k <;> rfl
  have hany : ns.any (· = []) = false := by simpa using hns
  unfold applyChunk
  rw [if_neg (by simp only [List.length_append, List.length_replicate, Int.ofNat_eq_natCast]; omega), hany, hst,
    if_neg (by simp), if_neg (by simp only [List.length_append, List.length_replicate]; omega)]
  simp [List.take_left', List.drop_append, List.drop_replicate]

/-- THE OWNER REBUILDS THE LIST: chunks whose starts are the running sum, applied to a list with all
slots from `pre.length` on still empty, fill in exactly their names. -/
theorem applyAll_fill (F : Fixes) (cs : List (Nat × List Bytes)) :
    ∀ pre : List Bytes, (∀ m ∈ pre, m ≠ []) → (∀ m ∈ catNames cs, m ≠ []) → StartsOK pre.length cs →
      applyAll F (pre ++ List.replicate (catNames cs).length []) cs = .ok (pre ++ catNames cs) := by
  induction cs with
  | nil => intro pre _ _ _; simp [applyAll, catNames]
  | cons c r ih =>
    intro pre hpre hn hs
    obtain ⟨s, ns⟩ := c
    obtain ⟨rfl, hs⟩ := hs
    simp only [catNames, List.mem_append] at hn ⊢
    have hns : ∀ m ∈ ns, m ≠ [] := fun m hm => hn m (Or.inl hm)
    rw [applyAll, List.length_append, applyChunk_fill F pre ns _ hpre hns]
    have := ih (pre ++ ns) (fun m hm => (List.mem_append.1 hm).elim (hpre m) (hns m))
      (fun m hm => hn m (Or.inr hm)) (by simpa using hs)
    simpa [List.append_assoc] using this

/-! ### the module list at the owner, on bytes -/

theorem asNames_tstr (ns : List Bytes) : asNames (ns.map Item.tstr) = some ns := by
  induction ns with
  | nil => rfl
  | cons n r ih => simp [asNames, ih]

theorem tstrs_wf (ns : List Bytes) (h : ∀ n ∈ ns, n.length < maxLen) :
    (Items.ofList (ns.map Item.tstr)).WF ∧ (Items.ofList (ns.map Item.tstr)).depth = 0 := by
  induction ns with
  | nil => exact ⟨trivial, rfl⟩
  | cons n r ih =>
    have := ih (fun m hm => h m (List.mem_cons_of_mem _ hm))
    exact ⟨⟨h n (List.mem_cons_self ..), this.1⟩, by simp [Items.ofList, Items.depth, Item.depth, this.2]⟩

/-- What makes a chunk decodable by the library: the start below 2⁶³ (`asInt`), counts within `MaxArrayDecodeLength`
(`+ 2`: the array also holds the chunk's two leading integers). -/
def ChunkWF (c : Nat × List Bytes) : Prop :=
  c.1 < 9223372036854775808 ∧ c.2.length + 2 < maxLen ∧ ∀ n ∈ c.2, n.length < maxLen

theorem chunkWF_of_starts (cs : List (Nat × List Bytes)) (hs : StartsOK 0 cs)
    (hc : (catNames cs).length ≤ maxModules) (hn : ∀ n ∈ catNames cs, n.length < maxLen) : ∀ c ∈ cs, ChunkWF c := by
  intro c hm
  have := startsOK_mem cs 0 hs c hm
  unfold maxModules at hc
  exact ⟨by omega, by unfold maxLen; omega, fun n h => hn n (this.2 n h)⟩

theorem asChunk_chunkItem (c : Nat × List Bytes) (h : ChunkWF c) :
    asChunk (chunkItem c.1 c.2) = some (Int.ofNat c.1, Int.ofNat c.2.length, c.2) := by
  have := h.2.1
  unfold maxLen at this
  simp [asChunk, chunkItem, toList_ofList, asInt, h.1, asNames_tstr, show c.2.length < 9223372036854775808 by omega]

theorem decode1_chunkEnc (c : Nat × List Bytes) (h : ChunkWF c) (rest : Bytes) :
    decode1 (chunkEnc c.1 c.2 ++ rest) = some (chunkItem c.1 c.2, rest) := by
  have ht := tstrs_wf c.2 h.2.2
  have h1 := h.1
  have h2 := h.2.1
  unfold maxLen at h2
  refine decode1_encode _ ?_ ?_ rest
  · simp only [chunkItem, Item.WF, Items.ofList, Items.WF, Items.length, length_ofList, List.length_map]
    exact ⟨h.2.1, by omega, by omega, ht.1⟩
  · simp [chunkItem, Items.ofList, Item.depth, Items.depth, ht.2, maxDepth]

theorem chunkEnc_ne (s : Nat) (ns : List Bytes) : chunkEnc s ns ≠ [] := by
  simp [chunkEnc, chunkItem, encode, encHead_ne]

/-- The concatenated encodings of a chunk list: the body of one or several `devmod:modules` KVs. -/
def encs : List (Nat × List Bytes) → Bytes
  | [] => []
  | c :: r => chunkEnc c.1 c.2 ++ encs r

theorem parseModules_encs (F : Fixes) (cs : List (Nat × List Bytes)) :
    ∀ fuel mods, (∀ c ∈ cs, ChunkWF c) → (encs cs).length < fuel →
      parseModules F fuel mods (encs cs) = applyAll F mods cs := by
  induction cs with
  | nil => intro fuel mods _ _; cases fuel <;> rfl
  | cons c r ih =>
    intro fuel mods hwf hf
    have hc := hwf c (List.mem_cons_self ..)
    simp only [encs, List.length_append] at hf ⊢
    obtain ⟨f, rfl⟩ : ∃ f, fuel = f + 1 := ⟨fuel - 1, by omega⟩
    cases hb : chunkEnc c.1 c.2 ++ encs r with
    | nil => exact absurd (List.append_eq_nil_iff.1 hb).1 (chunkEnc_ne _ _)
    | cons b bs =>
      have hpos : 1 ≤ (chunkEnc c.1 c.2).length := List.length_pos_iff.2 (chunkEnc_ne _ _)
      rw [parseModules, ← hb, decode1_chunkEnc c hc]
      simp only [asChunk_chunkItem c hc, applyAll]
      cases applyChunk F mods (Int.ofNat c.1) (Int.ofNat c.2.length) c.2 with
      | ok m => exact ih f m (fun x hx => hwf x (List.mem_cons_of_mem _ hx)) (by omega)
      | reject | panic s => rfl

/-! ### packing whole messages -/

/-- Scripts as `Devmod.Write` produces them: every message fits what is left of the 68 being
filled (`left`), a forced break gives the whole space `B` again. -/
def FitQ (B : Nat) : Nat → Script → Prop
  | _, [] => True
  | _, .yield :: r => FitQ B B r
  | left, .msg k v :: r =>
    v ≠ [] ∧ k ≠ [] ∧ rawKeyLen k ≤ 65535 ∧ kvSize ⟨k, v⟩ ≤ left ∧ FitQ B (left - kvSize ⟨k, v⟩) r

theorem FitQ.mono (B : Nat) (s : Script) : ∀ l l', FitQ B l s → l ≤ l' → FitQ B l' s := by
  induction s with
  | nil => intros; trivial
  | cons x r ih =>
    intro l l' h hl
    cases x with
    | yield => exact h
    | msg k v => exact ⟨h.1, h.2.1, h.2.2.1, by have := h.2.2.2.1; omega, ih _ _ h.2.2.2.2 (by omega)⟩

/-- The invariant of the packing loop on such a script: the reader being chunked is used up (or there is
none), the channel holds messages that fit, and `left < B` exactly when the 68 being filled holds something. -/
structure Good (B left : Nat) (st : St) : Prop where
  cur : st.cur = none ∨ ∃ k, st.cur = some (k, []) ∧ rawKeyLen k + 3 ≤ B
  q : FitQ B left st.queue
  mid : if st.mid then left < B else left = B

theorem Good.content_eq {B left : Nat} {st : St} (h : Good B left st) : content st = kvsOf st.queue := by
  unfold content
  rcases h.cur with hc | ⟨k, hc, _⟩ <;> simp [hc, curKVs]

/-- What one read does in the packing loop, `cs` being the messages still to be sent before it. -/
def ReadWhole (B left : Nat) (cs : List KV) (r : Res × St) : Prop :=
  (r.1 = .eof ∧ cs = [] ∧ content r.2 = []) ∨
  (r.1 = .tooSmall ∧ left ≠ B ∧ content r.2 = cs ∧ Good B B r.2) ∨
  (∃ c, r.1 = .kv c ∧ cs = c :: content r.2 ∧ kvSize c ≤ left ∧ Good B (left - kvSize c) r.2)

theorem readNext_whole (B : Nat) (q : Script) : ∀ (left : Nat) (mid : Bool), left ≤ B → FitQ B left q →
    (if mid then left < B else left = B) → ReadWhole B left (kvsOf q) (readNext .repaired left mid q) := by
  induction q with
  | nil => intro left mid _ _ _; exact Or.inl ⟨rfl, rfl, rfl⟩
  | cons x r ih =>
    intro left mid hle hf hmid
    cases x with
    | yield =>
      cases mid with
      | false =>
        have hl : left = B := by simpa using hmid
        simpa [readNext, Variant.repaired, kvsOf] using ih left false hle (hl ▸ hf) hmid
      | true =>
        rw [show readNext .repaired left true (.yield :: r) = (.tooSmall, ⟨r, none, false⟩) by simp [readNext, Variant.repaired]]
        exact Or.inr (Or.inl ⟨rfl, by simp at hmid; omega, by simp [content, curKVs, kvsOf],
          { cur := Or.inl rfl, q := hf, mid := by simp }⟩)
    | msg k v =>
      obtain ⟨hv, hk0, hk, hsz, hrest⟩ := hf
      have hkr : keyRead (Variant.repaired.keyLimit left) k.length = .ok := keyRead_ok _ k hk
      have hav := fits_avail left k v hk hsz
      have hvl := List.length_pos_iff.2 hv
      have hus := key_usable left k v hk hv hsz
      have hpos := kvSize_pos ⟨k, v⟩
      refine Or.inr (Or.inr ⟨⟨k, v⟩, ?_⟩)
      rcases readBody_spec left k v r with ⟨h0, _⟩ | ⟨_, he, _⟩ | ⟨_, _, hlt, hb⟩ | ⟨_, hge, hb⟩
      · omega
      · exact absurd he hv
      · rw [show readNext .repaired left mid (.msg k v :: r) = (.kv ⟨k, v⟩, ⟨r, none, true⟩) by simp [readNext, hkr, hb]]
        exact ⟨rfl, by simp [kvsOf, curKVs, hv, content], hsz, { cur := Or.inl rfl, q := hrest, mid := by simp; omega }⟩
      · have hlen : avail left k = v.length := by omega
        rw [show readNext .repaired left mid (.msg k v :: r) = (.kv ⟨k, v⟩, ⟨r, some (k, []), true⟩) by
          simp [readNext, hkr, hb, hlen]]
        exact ⟨rfl, by simp [kvsOf, curKVs, hv, content], hsz,
          { cur := Or.inr ⟨k, rfl, by omega⟩, q := hrest, mid := by simp; omega }⟩

theorem readChunk_whole (B left : Nat) (st : St) (hle : left ≤ B) (hg : Good B left st) :
    ReadWhole B left (content st) (readChunk .repaired st left) := by
  have next := readNext_whole B st.queue left st.mid hle hg.q hg.mid
  rw [hg.content_eq]
  rcases hg.cur with hc | ⟨k, hc, hus⟩
  · rwa [readChunk_none _ left hc]
  · rcases readBody_spec left k [] st.queue with ⟨h0, hb⟩ | ⟨_, _, hb⟩ | ⟨_, hne, _, _⟩ | ⟨hp, hge, _⟩
    · -- the key no longer fits what is left: the 68 is closed
      have hlt : left ≠ B := fun e => by have := (avail_pos_iff left k).2 (by omega); omega
      rw [readChunk_some_some _ hc hb]
      exact Or.inr (Or.inl ⟨rfl, hlt, by simp [content, curKVs],
        { cur := Or.inr ⟨k, rfl, hus⟩, q := hg.q.mono B _ _ _ hle, mid := by simp }⟩)
    · rwa [readChunk_some_none _ hc hb]
    · exact absurd rfl hne
    · simp at hge; omega

/-- One message: everything emitted is a whole message of the script, and the loop ends either at
the end of the channel or because the next message is to start a new 68. -/
theorem pack_whole (B : Nat) : ∀ (f maxRead : Nat) (st : St), maxRead < f → maxRead ≤ B → Good B maxRead st →
    content st = (pack .repaired B f maxRead st).1 ++ content (pack .repaired B f maxRead st).2.2 ∧
    (((pack .repaired B f maxRead st).2.1 = .eof ∧ content (pack .repaired B f maxRead st).2.2 = []) ∨
     ((pack .repaired B f maxRead st).2.1 = .more ∧ Good B B (pack .repaired B f maxRead st).2.2)) := by
  intro f
  induction f with
  | zero => intro maxRead st h; omega
  | succ f ih =>
    intro maxRead st hf hle hg
    rw [pack_succ]
    rcases hr : readChunk .repaired st maxRead with ⟨res, st'⟩
    rcases hr ▸ readChunk_whole B maxRead st hle hg with ⟨h1, h2, h3⟩ | ⟨h1, h2, h3, h4⟩ | ⟨c, h1, h2, h3, h4⟩
    all_goals simp only at h1; subst h1
    · simp [h2, h3]
    · simp [h2, h3, h4]
    · have hpos := kvSize_pos c
      have := ih (maxRead - kvSize c) st' (by omega) (by omega) h4
      exact ⟨by rw [h2, this.1]; rfl, this.2⟩

theorem rounds_whole (B f : Nat) (st : St) (hg : Good B B st) (hd : (rounds .repaired B f st).fin = .done) :
    flatten (rounds .repaired B f st).batches = content st := by
  -- a round that drains the channel ends with a 68 closed at its end (2) after 68s closed for the next message (6)
  fun_induction rounds .repaired B f st with
  | case2 f st cs st' hp =>
    obtain ⟨hc, ⟨_, h0⟩ | ⟨h, _⟩⟩ := hp ▸ pack_whole B (B + 1) B st (by omega) (Nat.le_refl _) hg
    · simp [flatten, hc, h0]
    · cases h
  | case6 f st cs st' hp r ih =>
    obtain ⟨hc, ⟨h, _⟩ | ⟨_, hg'⟩⟩ := hp ▸ pack_whole B (B + 1) B st (by omega) (Nat.le_refl _) hg
    · cases h
    · rw [flatten_cons, ih hg' hd, hc]
  | _ => cases hd

theorem FitQ.mem (B : Nat) (s : Script) : ∀ l, l ≤ B → FitQ B l s → ∀ k v, Step.msg k v ∈ s →
    v ≠ [] ∧ k ≠ [] ∧ rawKeyLen k ≤ 65535 ∧ kvSize ⟨k, v⟩ ≤ B := by
  induction s with
  | nil => intro _ _ _ _ _ h; cases h
  | cons x r ih =>
    intro l hl h k v hm
    cases x with
    | yield => exact ih B (Nat.le_refl _) h k v ((List.mem_cons.1 hm).resolve_left nofun)
    | msg k' v' =>
      rcases List.mem_cons.1 hm with e | hm
      · cases e; exact ⟨h.1, h.2.1, h.2.2.1, Nat.le_trans h.2.2.2.1 hl⟩
      · exact ih _ (Nat.le_trans (Nat.sub_le _ _) hl) h.2.2.2.2 k v hm

theorem fitq_usable (B : Nat) (hB : B < 65536) (s : Script) (h : FitQ B B s) : UsableMtu B s :=
  (usable_iff B s).2 ⟨hB, fun k v hm =>
    have ⟨hv, hk, hkl, hsz⟩ := FitQ.mem B s B (Nat.le_refl _) h k v hm
    ⟨List.length_pos_iff.2 hk, key_usable B k v hkl hv hsz⟩⟩

theorem whole_round (B : Nat) (hB : B < 65536) (s : Script) (h : FitQ B B s) :
    (allBatches .repaired B s).fin = .done ∧ LastOnly (allBatches .repaired B s).batches ∧
    flatten (allBatches .repaired B s).batches = kvsOf s := by
  have hdone := repaired_done B s (fitq_usable B hB s h)
  unfold allBatches at hdone ⊢
  have hw := rounds_whole B _ (St.init s) { cur := Or.inl rfl, q := h, mid := by simp [St.init] } hdone
  exact ⟨hdone, rounds_lastOnly hdone, hw.trans (content_eq _)⟩

/-! ### what `Devmod.Write` hands to the chunker -/

def kvOf (m : Bytes × Bytes) : KV := ⟨m.1, m.2⟩

/-- One message of the repaired writer: written whole, to the current 68 if it fits what is left (`left' = left`),
else to a new one (`left' = B`). -/
theorem emit_whole (F : Fixes) (hF : F.devmodWhole = true) (B left : Nat) (k v : Bytes) (l : Nat) (o : List Op)
    (h : emit F B left k v = some (l, o)) :
    ∃ pre left', o = pre ++ [.next k, .write v] ∧ kvSize ⟨k, v⟩ ≤ left' ∧ l = left' - kvSize ⟨k, v⟩ ∧
      ((pre = [] ∧ left' = left) ∨ (pre = [.yield] ∧ left' = B)) := by
  revert h
  fun_cases emit F B left k v with
  | case1 => nofun
  | case2 => intro h; cases h; exact ⟨[.yield], B, rfl, by omega, rfl, .inr ⟨rfl, rfl⟩⟩
  | case3 => intro h; cases h; exact ⟨[], left, rfl, by omega, rfl, .inl ⟨rfl, rfl⟩⟩
  | case4 hF' => exact absurd hF hF'

theorem emitAll_isSome (F : Fixes) (hF : F.devmodWhole = true) (B : Nat) (msgs : List (Bytes × Bytes))
    (h : ∀ m ∈ msgs, kvSize (kvOf m) ≤ B) : ∀ left, (emitAll F B left msgs).isSome = true := by
  induction msgs with
  | nil => intro left; rfl
  | cons m r ih =>
    intro left
    obtain ⟨k, v⟩ := m
    have hm : ¬ kvSize ⟨k, v⟩ > B := Nat.not_lt.2 (h (k, v) (List.mem_cons_self ..))
    obtain ⟨l1, o1, he⟩ : ∃ l1 o1, emit F B left k v = some (l1, o1) := by
      simp only [emit, hF, if_true, if_neg hm]
      split <;> exact ⟨_, _, rfl⟩
    obtain ⟨p, hp⟩ := Option.isSome_iff_exists.1 (ih (fun x hx => h x (List.mem_cons_of_mem _ hx)) l1)
    simp [emitAll, he, hp]

/-- The repaired writer: the script it produces is one the packer never splits, and its messages
are exactly the devmod messages.  `s` is what follows: `Devmod.Write` runs `emitAll` twice with a forced break
between, and the first run has to say what it leaves for `.yield ::` the script of the second. -/
theorem emitAll_fit (F : Fixes) (hF : F.devmodWhole = true) (B left : Nat) (msgs : List (Bytes × Bytes)) (l : Nat)
    (o : List Op) (h : emitAll F B left msgs = some (l, o))
    (hm : ∀ m ∈ msgs, m.2 ≠ [] ∧ m.1 ≠ [] ∧ rawKeyLen m.1 ≤ 65535) :
    Starts o ∧ kvsOf (compile o) = msgs.map kvOf ∧ ∀ s, FitQ B l s → FitQ B left (compile o ++ s) := by
  revert h
  -- no message; one that cannot be sent (2), or one after it (3): `Devmod.Write` fails; a message and the rest (4)
  fun_induction emitAll F B left msgs generalizing l o with
  | case1 left => intro h; cases h; exact ⟨trivial, rfl, fun _ => id⟩
  | case2 | case3 => nofun
  | case4 left k v r l1 o1 he l2 o2 hr ih =>
    intro h; cases h
    obtain ⟨hv, hk, hkl⟩ := hm (k, v) (List.mem_cons_self ..)
    obtain ⟨pre, left', rfl, hsz, rfl, hp⟩ := emit_whole F hF B left k v l1 o1 he
    obtain ⟨h2, h3, h4⟩ := ih _ _ (fun x hx => hm x (List.mem_cons_of_mem _ hx)) hr
    have hc : compile ((pre ++ [.next k, .write v]) ++ o2) = compile pre ++ .msg k v :: compile o2 := by
      rw [List.append_assoc, compile_append _ _ (by trivial)]
      exact congrArg _ (compile_next_write k v o2 h2)
    have hs : kvsOf (.msg k v :: compile o2) = ((k, v) :: r).map kvOf := by simp [kvsOf, curKVs, hv, h3, kvOf]
    rw [hc]
    rcases hp with ⟨rfl, rfl⟩ | ⟨rfl, rfl⟩ <;> exact ⟨trivial, hs, fun s h => ⟨hv, hk, hkl, hsz, h4 s h⟩⟩

/-! ### the owner's devmod module on reassembled messages -/

def Out.bind {α β : Type} : Out α → (α → Out β) → Out β
  | .ok a, f => f a
  | .reject, _ => .reject
  | .panic s, _ => .panic s

theorem Out.bind_assoc {α β γ : Type} (x : Out α) (f : α → Out β) (g : β → Out γ) :
    (x.bind f).bind g = x.bind (fun a => (f a).bind g) := by
  cases x <;> rfl

theorem Out.bind_ok {α : Type} (x : Out α) : x.bind Out.ok = x := by cases x <;> rfl

theorem dmHandleAll_cons (F : Fixes) (d : DmState) (m : Bytes × Bytes) (r : List (Bytes × Bytes)) :
    dmHandleAll F d (m :: r) = (dmHandle F d (cutKey m.1).2 m.2).bind (fun d' => dmHandleAll F d' r) := by
  simp only [dmHandleAll]
  cases dmHandle F d (cutKey m.1).2 m.2 <;> rfl

theorem dmHandleAll_append (F : Fixes) (a b : List (Bytes × Bytes)) : ∀ d,
    dmHandleAll F d (a ++ b) = (dmHandleAll F d a).bind (fun d' => dmHandleAll F d' b) := by
  induction a with
  | nil => intro d; rfl
  | cons m r ih =>
    intro d
    simp only [List.cons_append, dmHandleAll_cons, Out.bind_assoc, ih]

theorem applyAll_cons (F : Fixes) (m : List Bytes) (c : Nat × List Bytes) (r : List (Nat × List Bytes)) :
    applyAll F m (c :: r) =
      (applyChunk F m (Int.ofNat c.1) (Int.ofNat c.2.length) c.2).bind (fun m' => applyAll F m' r) := by
  simp only [applyAll]
  cases applyChunk F m (Int.ofNat c.1) (Int.ofNat c.2.length) c.2 <;> rfl

theorem applyAll_append (F : Fixes) (a b : List (Nat × List Bytes)) : ∀ m,
    applyAll F m (a ++ b) = (applyAll F m a).bind (fun m' => applyAll F m' b) := by
  induction a with
  | nil => intro m; rfl
  | cons c r ih => intro m; simp only [List.cons_append, applyAll_cons, Out.bind_assoc, ih]

theorem applyChunk_length {F : Fixes} {s l : Int} {ns mods m : List Bytes} (h : applyChunk F mods s l ns = .ok m) :
    m.length = mods.length := by
  revert h
  -- `applyChunk` refuses (for its numbers, for an empty name, out of the announced range: an error or a panic) or
  -- copies into place: `cases h` leaves that end
  fun_cases applyChunk F mods s l ns <;> intro h <;> cases h
  next hle =>
    simp only [List.length_append, List.length_take, List.length_drop]
    omega

theorem applyAll_length (F : Fixes) (cs : List (Nat × List Bytes)) (mods m : List Bytes)
    (h : applyAll F mods cs = .ok m) : m.length = mods.length := by
  revert h
  fun_induction applyAll F mods cs with
  | case1 => intro h; cases h; rfl
  | case2 _ _ _ _ hc ih => intro h; rw [ih h, applyChunk_length hc]
  | _ => nofun

/-- The body of a `devmod:modules` message: whole chunks the library can decode. -/
def IsEncs (v : Bytes) : Prop := ∃ cs, v = encs cs ∧ ∀ c ∈ cs, ChunkWF c

theorem encs_append (a b : List (Nat × List Bytes)) : encs (a ++ b) = encs a ++ encs b := by
  induction a with
  | nil => rfl
  | cons c r ih => simp [encs, ih]

theorem IsEncs.append {a b : Bytes} (ha : IsEncs a) (hb : IsEncs b) : IsEncs (a ++ b) := by
  obtain ⟨ca, rfl, ha⟩ := ha
  obtain ⟨cb, rfl, hb⟩ := hb
  exact ⟨ca ++ cb, (encs_append ca cb).symm, fun c hc => (List.mem_append.1 hc).elim (ha c) (hb c)⟩

/-- `HandleInfo("modules")` on whole chunks; applied to an empty list they leave it empty, so the
distinction the code makes between a nil and an empty list is that of `d.mods`. -/
theorem dmHandle_modules (F : Fixes) (d : DmState) (cs : List (Nat × List Bytes)) (hwf : ∀ c ∈ cs, ChunkWF c) :
    dmHandle F d nModules (encs cs) =
      (applyAll F (d.mods.getD []) cs).bind (fun l => .ok { d with mods := d.mods.map fun _ => l }) := by
  unfold dmHandle
  rw [if_neg (by decide), if_neg (by decide), if_pos rfl, parseModules_encs F cs _ _ hwf (by omega)]
  cases h : applyAll F (d.mods.getD []) cs with
  | ok l =>
    cases hm : d.mods with
    | some l0 => simp [Out.bind]
    | none =>
      rw [hm] at h
      have := applyAll_length F cs _ _ h
      simp [Out.bind, List.length_eq_zero_iff.1 this]
  | reject | panic s => rfl

/-- Two consecutive `devmod:modules` KVs that arrive as one message are handled like two messages. -/
theorem modules_split (F : Fixes) (d : DmState) (a b : Bytes) (ha : IsEncs a) (hb : IsEncs b) :
    dmHandle F d nModules (a ++ b) = (dmHandle F d nModules a).bind (fun d' => dmHandle F d' nModules b) := by
  obtain ⟨ca, rfl, ha⟩ := ha
  obtain ⟨cb, rfl, hb⟩ := hb
  rw [← encs_append, dmHandle_modules F d _ (fun c hc => (List.mem_append.1 hc).elim (ha c) (hb c)),
    dmHandle_modules F d _ ha, applyAll_append, Out.bind_assoc, Out.bind_assoc]
  cases h : applyAll F (d.mods.getD []) ca with
  | ok l =>
    simp only [Out.bind, dmHandle_modules F _ _ hb]
    cases hm : d.mods with
    | some l0 => rfl
    | none =>
      rw [hm] at h
      simp [List.length_eq_zero_iff.1 (applyAll_length F ca _ _ h)]
  | reject | panic s => rfl

/-- KVs that are whole devmod messages: no key is empty, a `devmod:modules` value is whole chunks, and
only `devmod:modules` occurs more than once (so only its KVs can be merged by the reassembly). -/
def Whole (g : List KV) : Prop :=
  (∀ c ∈ g, c.key ≠ [] ∧ (c.key = modulesKey → IsEncs c.val)) ∧
  g.Pairwise fun c d => c.key = d.key → c.key = modulesKey

theorem Whole.append {a b : List KV} (h : Whole (a ++ b)) : Whole a ∧ Whole b :=
  ⟨⟨fun c hc => h.1 c (List.mem_append_left _ hc), (List.pairwise_append.1 h.2).1⟩,
   ⟨fun c hc => h.1 c (List.mem_append_right _ hc), (List.pairwise_append.1 h.2).2.1⟩⟩

theorem cutKey_modulesKey : (cutKey modulesKey).2 = nModules := by decide

/-- `handle_merged` with a message open: the writer has opened the message `key` with `body` so far, and `g` is
still to come (`reasm key g` appends to that message what `g` has under the same key first).  Only a
`devmod:modules` message may be continued in this way, since its handling is that of its parts (`modules_split`):
that is the second premise. -/
theorem handle_run (F : Fixes) : ∀ (g : List KV) (key body : Bytes) (dm : DmState),
    Whole g → (∀ c ∈ g, c.key = key → key = modulesKey) → (key = modulesKey → IsEncs body) →
    dmHandleAll F dm ((key, body ++ (reasm key g).1) :: (reasm key g).2) =
      (dmHandle F dm (cutKey key).2 body).bind (fun d => dmHandleAll F d (pairs g)) := by
  intro g
  induction g with
  | nil => intro key body dm _ _ _; simp only [reasm, List.append_nil, dmHandleAll_cons]; rfl
  | cons c r ih =>
    intro key body dm hw hkey hbody
    have hr : Whole r := (Whole.append (a := [c]) hw).2
    have hc := hw.1 c (List.mem_cons_self ..)
    by_cases hk : c.key = key
    · have hmk : key = modulesKey := hkey c (List.mem_cons_self ..) hk
      have hb := hbody hmk
      have hcv : IsEncs c.val := hc.2 (hk.trans hmk)
      simp only [reasm, if_pos hk]
      rw [← List.append_assoc, ih key _ dm hr (fun _ _ _ => hmk) (fun _ => hb.append hcv)]
      simp only [pairs, List.map_cons, dmHandleAll_cons]
      rw [hk, hmk, cutKey_modulesKey, modules_split F dm body c.val hb hcv, Out.bind_assoc]
    · simp only [reasm, if_neg hk, List.append_nil]
      rw [dmHandleAll_cons]
      congr 1
      funext d
      rw [ih c.key c.val d hr (fun d' hd' e => List.rel_of_pairwise_cons hw.2 hd' e.symm) hc.2]
      simp only [pairs, List.map_cons, dmHandleAll_cons]

/-- THE OWNER SEES WHOLE MESSAGES: handling the reassembled messages of a 68 whose KVs are whole
devmod messages is handling these KVs one after another. -/
theorem handle_merged (F : Fixes) (g : List KV) (dm : DmState) (hw : Whole g) :
    dmHandleAll F dm (reasm [] g).2 = dmHandleAll F dm (pairs g) := by
  cases g with
  | nil => rfl
  | cons c r =>
    have hc := hw.1 c (List.mem_cons_self ..)
    simp only [reasm, if_neg hc.1]
    rw [handle_run F r c.key c.val dm (Whole.append (a := [c]) hw).2
      (fun d hd e => List.rel_of_pairwise_cons hw.2 hd e.symm) hc.2]
    simp only [pairs, List.map_cons, dmHandleAll_cons]

/-! ### the session store loses the difference between nil and empty -/

/-- `HandleInfo` does not see whether the module list went through the session store. -/
theorem dmHandle_persist (F : Fixes) (d : DmState) (n b : Bytes) :
    dmHandle F (persist d) n b = (dmHandle F d n b).bind (fun d' => .ok (persist d')) := by
  -- in every branch but `modules` the result does not depend on `mods` as it was: `active` and the descriptors leave it
  -- alone, `nummodules` overwrites it with `some l` on both sides: `rfl`
  unfold dmHandle
  by_cases h1 : n = nActive
  · simp only [if_pos h1]
    repeat' split
    all_goals rfl
  by_cases h2 : n = nNum
  · simp only [if_neg h1, if_pos h2]
    repeat' split
    all_goals rfl
  by_cases h3 : n = nModules
  · -- the one branch that reads `mods`: `parseModules` starts from the same list, and a nil list that stays empty
    -- comes out of the store as the empty list
    have hg : (persist d).mods.getD [] = d.mods.getD [] := by cases h : d.mods <;> simp [persist, h]
    simp only [if_neg h1, if_neg h2, if_pos h3, hg]
    cases parseModules F (b.length + 1) (d.mods.getD []) b with
    | reject | panic s => rfl
    | ok l =>
      have hl : (if d.mods = none ∧ l = [] then none else some l : Option (List Bytes)).getD [] = l := by
        split
        · rename_i h; rw [h.2]; rfl
        · rfl
      simp [Out.bind, persist, hl]
  · simp only [if_neg h1, if_neg h2, if_neg h3]
    repeat' split
    all_goals rfl

theorem dmHandleAll_persist (F : Fixes) (ms : List (Bytes × Bytes)) : ∀ d,
    dmHandleAll F (persist d) ms = (dmHandleAll F d ms).bind (fun d' => .ok (persist d')) := by
  induction ms with
  | nil => intro d; rfl
  | cons m r ih =>
    intro d
    rw [dmHandleAll_cons, dmHandleAll_cons, dmHandle_persist, Out.bind_assoc, Out.bind_assoc]
    congr 1
    funext d'
    exact ih d'

theorem dmHandleAll_congr (F : Fixes) (ms : List (Bytes × Bytes)) (a b b1 : DmState) (h : persist a = persist b)
    (hb : dmHandleAll F b ms = .ok b1) : ∃ a1, dmHandleAll F a ms = .ok a1 ∧ persist a1 = persist b1 := by
  have := dmHandleAll_persist F ms a
  rw [h, dmHandleAll_persist, hb] at this
  cases ha : dmHandleAll F a ms with
  | ok a1 => rw [ha] at this; exact ⟨a1, rfl, by simpa [Out.bind] using this.symm⟩
  | reject | panic s => rw [ha] at this; cases this

/-! ### the devmod messages handled one after another -/

theorem cutKey_mkKey (m n : Bytes) (h : colon ∉ m) : cutKey (mkKey m n) = (m, n) := by
  induction m with
  | nil => simp [mkKey, cutKey]
  | cons b r ih =>
    have hb : b ≠ colon := fun e => h (e ▸ List.mem_cons_self ..)
    have := ih (fun e => h (List.mem_cons_of_mem _ e))
    unfold mkKey at this ⊢
    simp only [List.cons_append, cutKey, if_neg hb, this]

theorem cutKey_devmod (n : Bytes) : cutKey (mkKey nDevmod n) = (nDevmod, n) :=
  cutKey_mkKey nDevmod n (by decide)

theorem dmHandle_active (F : Fixes) (d : DmState) : dmHandle F d nActive cbTrue = .ok d := by
  have : unmarshalRaw cbTrue = some (.simple 21) :=
    unmarshalRaw_encode (.simple 21) (show 21 < 24 by omega) (Nat.zero_le _)
  simp [dmHandle, this]

/-- A descriptor field as the device describes it: a name of the table with the right kind of value. -/
def FieldOk (f : Field) : Prop :=
  (∃ req, fieldTable.lookup f.name = some (f.bin, req)) ∧ f.val.length < maxLen

/-- 7 is the length of the longest name of the table ("version", "pathsep", "progenv"). -/
theorem fieldOk_name (f : Field) (h : FieldOk f) :
    f.name.length ≤ 7 ∧ f.name ≠ nActive ∧ f.name ≠ nNum ∧ f.name ≠ nModules := by
  obtain ⟨⟨req, hl⟩, _⟩ := h
  have : ∀ p ∈ fieldTable, p.1.length ≤ 7 ∧ p.1 ≠ nActive ∧ p.1 ≠ nNum ∧ p.1 ≠ nModules := by decide
  obtain ⟨l₁, l₂, e, _⟩ := List.lookup_eq_some_iff.1 hl
  exact this _ (e ▸ List.mem_append_right _ (List.mem_cons_self ..))

theorem dmHandle_field (F : Fixes) (d : DmState) (f : Field) (hf : FieldOk f) :
    dmHandle F d f.name f.enc = .ok { d with fields := setField d.fields f.name f.val } := by
  obtain ⟨_, h1, h2, h3⟩ := fieldOk_name f hf
  obtain ⟨⟨req, hl⟩, hlen⟩ := hf
  unfold dmHandle Field.enc
  rw [if_neg h1, if_neg h2, if_neg h3, hl]
  cases hb : f.bin <;> simp [unmarshalRaw_encode _ (show Item.WF (.tstr f.val) from hlen) (Nat.zero_le _),
    unmarshalRaw_encode _ (show Item.WF (.bstr f.val) from hlen) (Nat.zero_le _)]

theorem handleNum_ok (n : Nat) (h : n ≤ maxModules) :
    handleNum .repaired (Int.ofNat n) = .ok (List.replicate n []) := by
  unfold maxModules at h
  have hi : ¬ ((n : Int) < 0 ∨ (n : Int) > 65535) := by omega
  simp [handleNum, Fixes.repaired, maxModules, hi]

theorem dmHandle_num (d : DmState) (n : Nat) (h : n ≤ maxModules) :
    dmHandle .repaired d nNum (encode (.uint n)) = .ok { d with mods := some (List.replicate n []) } := by
  have hn : n < 9223372036854775808 := by unfold maxModules at h; omega
  have : (unmarshalRaw (encode (.uint n))).bind asInt = some (Int.ofNat n) := by
    simp [unmarshalRaw_encode (.uint n) (show n < _ by omega) (Nat.zero_le _), asInt, hn]
  simp only [dmHandle, show nNum ≠ nActive by decide, if_false, if_true, this, handleNum_ok n h]

def fieldMsgs (fs : List Field) : List (Bytes × Bytes) := fs.map fun f => (mkKey nDevmod f.name, f.enc)

def chunkMsgs (cs : List (Nat × List Bytes)) : List (Bytes × Bytes) := cs.map fun c => (modulesKey, chunkEnc c.1 c.2)

theorem dmHandleAll_chunks (F : Fixes) (cs : List (Nat × List Bytes)) (hwf : ∀ c ∈ cs, ChunkWF c) :
    ∀ (d : DmState) (l : List Bytes), d.mods = some l →
      dmHandleAll F d (chunkMsgs cs) = (applyAll F l cs).bind (fun l' => .ok { d with mods := some l' }) := by
  induction cs with
  | nil => intro d l h; simp [chunkMsgs, dmHandleAll, applyAll, Out.bind, ← h]
  | cons c r ih =>
    intro d l h
    have hc : chunkEnc c.1 c.2 = encs [c] := by simp [encs]
    have h1 : applyAll F l [c] = applyChunk F l (Int.ofNat c.1) (Int.ofNat c.2.length) c.2 := by
      rw [applyAll_cons]; exact Out.bind_ok _
    simp only [chunkMsgs, List.map_cons, dmHandleAll_cons, cutKey_modulesKey, applyAll_cons, Out.bind_assoc]
    rw [hc, dmHandle_modules F d [c] (by simpa using hwf c (List.mem_cons_self ..)), h, Option.getD_some, h1,
      Out.bind_assoc]
    congr 1
    funext l'
    have := ih (fun x hx => hwf x (List.mem_cons_of_mem _ hx)) { d with mods := some l' } l' rfl
    simpa [Out.bind, chunkMsgs] using this

def setAll (init : List (Bytes × Bytes)) (fs : List Field) : List (Bytes × Bytes) :=
  fs.foldl (fun acc f => setField acc f.name f.val) init

theorem seq_fields (F : Fixes) (fs : List Field) : ∀ d, (∀ f ∈ fs, FieldOk f) →
    dmHandleAll F d (fieldMsgs fs) = .ok { d with fields := setAll d.fields fs } := by
  induction fs with
  | nil => intro d _; rfl
  | cons f r ih =>
    intro d h
    have := ih { d with fields := setField d.fields f.name f.val } (fun x hx => h x (List.mem_cons_of_mem _ hx))
    simp only [fieldMsgs] at this
    simp only [fieldMsgs, List.map_cons, dmHandleAll_cons, cutKey_devmod, dmHandle_field F d f (h f (List.mem_cons_self ..)),
      Out.bind, this]
    rfl

/-- Pairwise different; `nodup_iff` ties it to `List.Nodup`. -/
def NoDup : List Bytes → Prop
  | [] => True
  | a :: r => a ∉ r ∧ NoDup r

theorem nodup_iff (l : List Bytes) : NoDup l ↔ l.Nodup := by
  induction l with
  | nil => simp [NoDup]
  | cons a r ih => simp [NoDup, ih]

/-- The filter is on the fields, not on their names, so this is not `NoDup.filter`. -/
theorem nodup_filter_names (fs : List Field) (h : NoDup (fs.map (·.name))) (p : Field → Bool) :
    ((fs.filter p).map (·.name)).Nodup :=
  ((nodup_iff _).1 h).sublist (List.filter_sublist.map _)

theorem NoDup.filter (p : Bytes → Bool) : ∀ l, NoDup l → NoDup (l.filter p) :=
  fun l h => (nodup_iff _).2 (List.Pairwise.filter p ((nodup_iff l).1 h))

theorem setAll_nodup (fs : List Field) : ∀ init, (fs.map (·.name)).Nodup → (∀ f ∈ fs, ∀ p ∈ init, p.1 ≠ f.name) →
    setAll init fs = (fs.map fun f => (f.name, f.val)).reverse ++ init := by
  induction fs with
  | nil => intro init _ _; rfl
  | cons f r ih =>
    intro init hnd hi
    rw [List.map_cons, List.nodup_cons] at hnd
    have hf : setField init f.name f.val = (f.name, f.val) :: init := by
      rw [setField, List.filter_eq_self.2 (fun p hp => by simpa using hi f (List.mem_cons_self ..) p hp)]
    rw [setAll, List.foldl_cons, hf, ← setAll, ih _ hnd.2]
    · simp
    · intro g hg p hp
      rcases List.mem_cons.1 hp with rfl | hp
      · exact fun e => hnd.1 (List.mem_map.2 ⟨g, hg, e.symm⟩)
      · exact hi g (List.mem_cons_of_mem _ hg) p hp

theorem lookup_of_mem {α β : Type} [BEq α] [LawfulBEq α] (l : List (α × β)) (k : α) (v : β)
    (hnd : (l.map (·.1)).Nodup) (h : (k, v) ∈ l) : l.lookup k = some v := by
  induction l with
  | nil => cases h
  | cons p r ih =>
    rw [List.map_cons, List.nodup_cons] at hnd
    rcases List.mem_cons.1 h with rfl | h
    · exact List.lookup_cons_self
    · have : (k == p.1) = false := by
        simpa using fun e : k = p.1 => hnd.1 (List.mem_map.2 ⟨(k, v), h, e⟩)
      rw [List.lookup_cons, this]
      exact ih hnd.2 h

/-! ### the owner over the 68 messages of the devmod round -/

/-- `ownerServiceInfo` over a sequence of TO2.DeviceServiceInfo messages (the answers are dropped). -/
def ownFold (o : Own) : List Batch → Out Own
  | [] => .ok o
  | b :: r =>
    match ownStep o b with
    | .ok p => ownFold p.1 r
    | .reject => .reject
    | .panic s => .panic s

theorem reassembleF_ok (F : Fixes) (kvs : List KV) (h : ∀ c ∈ kvs, c.key ≠ []) :
    reassembleF F kvs = .ok (reasm [] kvs).2 := by
  cases kvs with
  | nil => rfl
  | cons c r => simp [reassembleF, h c (List.mem_cons_self ..)]

theorem ite_stage_ne (p : Prop) [Decidable p] : (if p then Stage.finished else Stage.running) ≠ .devmod := by
  split <;> simp

theorem dmProduce_ok (d : DmState) (ms : List Bytes) (hm : d.mods = some ms) (hne : ∀ m ∈ ms, m ≠ [])
    (hreq : requiredNames.all (fun r => d.get r ≠ []) = true) : dmProduce d = .ok true := by
  have hany : ms.any (· = []) = false := by simpa using hne
  simp only [dmProduce, hm, hany, hreq, if_true, Bool.false_eq_true, if_false]

/-- THE OWNER GETS DEVMOD, on the owner's side: if the 68 messages of the round carry whole devmod
messages (`Whole`), only the last one without IsMoreServiceInfo, and handling these messages one after
another gives `dfin` with all required fields and a full module list, then after the last 68 the
session holds exactly `dfin`, marked complete, and the first owner module is selected.

Two runs are compared: the owner's, whose `o.dm` goes through the session store (`persist`) after every 68, and
`d`, which handles the same messages without ever being stored; `hsim` says they differ at most in a nil module
list having become empty, and `dmHandleAll_congr` carries that over a 68. -/
theorem devmod_fold (bs : List Batch) (o : Own) (d dfin : DmState) (names : List Bytes)
    (hst : o.stage = .devmod) (hlast : LastOnly bs) (hw : Whole (flatten bs)) (hsim : persist o.dm = persist d)
    (hseq : dmHandleAll o.F d (pairs (flatten bs)) = .ok dfin)
    (hmods : dfin.mods = some names) (hne : names ≠ []) (hnn : ∀ m ∈ names, m ≠ [])
    (hreq : requiredNames.all (fun r => dfin.get r ≠ []) = true) :
    ∃ o', ownFold o bs = .ok o' ∧ o'.dm.complete = true ∧ o'.dm.fields = dfin.fields ∧
      o'.dm.mods = some names ∧ o'.stage ≠ .devmod ∧ o'.log = o.log := by
  induction bs generalizing o d with
  | nil => exact hlast.elim
  | cons b r ih =>
    obtain ⟨hwb, hwr⟩ := Whole.append (flatten_cons b r ▸ hw)
    rw [flatten_cons, pairs_append, dmHandleAll_append] at hseq
    cases hd1 : dmHandleAll o.F d (pairs b.kvs) with
    | reject | panic s => rw [hd1] at hseq; cases hseq
    | ok d1 =>
      rw [hd1, Out.bind] at hseq
      obtain ⟨dm1, ho1, hs1⟩ := dmHandleAll_congr o.F _ o.dm d d1 hsim hd1
      have hre := reassembleF_ok o.F b.kvs (fun c hc => (hwb.1 c hc).1)
      rw [← handle_merged o.F b.kvs o.dm hwb] at ho1
      cases r with
      | nil =>
        -- the last message: ProduceInfo of the devmod module
        have hmore : b.more = false := hlast
        cases hseq
        have hf : dm1.fields = dfin.fields := congrArg (·.fields) hs1
        have hm1 : dm1.mods = some names := by
          have := congrArg (·.mods) hs1
          simp only [persist, hmods, Option.getD_some, Option.some.injEq] at this
          cases hmm : dm1.mods with
          | none => rw [hmm] at this; exact absurd this.symm hne
          | some l => rw [hmm] at this; exact congrArg some this
        have hprod : dmProduce dm1 = .ok true :=
          dmProduce_ok dm1 names hm1 hnn (by simp only [DmState.get, hf]; exact hreq)
        let ms := if o.filter then o.mods.filter (fun m => (dm1.mods.getD []).contains m.name) else o.mods
        refine ⟨{ o with dm := { dm1 with complete := true }, mods := ms,
                         stage := if ms = [] then .finished else .running }, ?_, rfl, hf, hm1, ite_stage_ne _, rfl⟩
        simp only [ownFold, ownStep, hre, hst, ho1, hmore, hprod, Bool.false_eq_true, if_false]
        rfl
      | cons c t =>
        have hstep : ownStep o b = .ok ({ o with dm := persist dm1 }, Reply.empty) := by
          simp only [ownStep, hre, hst, ho1, hlast.1, if_true]
        simp only [ownFold, hstep]
        exact ih { o with dm := persist dm1 } d1 hst hlast.2 hwr hs1 hseq

/-! ### from the device configuration to the hypotheses of `devmod_fold` -/

theorem whole_msgs (ms : List (Bytes × Bytes)) (cs : List (Nat × List Bytes)) (hnd : (ms.map (·.1)).Nodup)
    (hk : ∀ m ∈ ms, m.1 ≠ [] ∧ m.1 ≠ modulesKey) (hwf : ∀ c ∈ cs, ChunkWF c) :
    Whole ((ms ++ chunkMsgs cs).map kvOf) := by
  have hcs : ∀ c ∈ (chunkMsgs cs).map kvOf, c.key = modulesKey ∧ IsEncs c.val := by
    simp only [chunkMsgs, List.map_map, List.mem_map]
    rintro _ ⟨c, hc, rfl⟩
    exact ⟨rfl, [c], by simp [kvOf, encs], by simpa using hwf c hc⟩
  rw [List.map_append]
  refine ⟨fun c hc => ?_, List.pairwise_append.2 ⟨?_, ?_, fun c _ d hd _ => ?_⟩⟩
  · rcases List.mem_append.1 hc with h | h
    · obtain ⟨m, hm, rfl⟩ := List.mem_map.1 h
      exact ⟨(hk m hm).1, fun e => absurd e (hk m hm).2⟩
    · exact ⟨(hcs c h).1 ▸ (by decide), fun _ => (hcs c h).2⟩
  · rw [List.pairwise_map]
    exact (List.pairwise_map.1 hnd).imp fun h e => absurd e h
  · exact List.pairwise_of_forall_mem_list fun c hc _ _ _ => (hcs c hc).1
  · exact (hcs d hd).1 ▸ ‹c.key = d.key›

theorem mkKey_inj (m a b : Bytes) (h : mkKey m a = mkKey m b) : a = b := by
  simpa [mkKey] using h

/-- 10 is the length of "nummodules", the longest name of a devmod message. -/
theorem devmodKey_ok (n : Bytes) (hl : n.length ≤ 10) (hn : n ≠ nModules) :
    mkKey nDevmod n ≠ [] ∧ rawKeyLen (mkKey nDevmod n) ≤ 65535 ∧ mkKey nDevmod n ≠ modulesKey := by
  have hlen : (mkKey nDevmod n).length = 7 + n.length := by simp [mkKey, nDevmod]; omega
  refine ⟨fun e => by rw [e] at hlen; simp at hlen; omega, ?_, fun e => hn (mkKey_inj _ _ _ e)⟩
  rw [rawKeyLen_eq, if_pos (by omega)]
  omega

theorem field_enc_ne (f : Field) : f.enc ≠ [] := by
  unfold Field.enc
  split <;> simp [encode, encHead_ne]

/-- What the device must satisfy for the devmod round to be analysed. -/
structure CfgOk (sendMtu : Nat) (cfg : DevCfg) : Prop where
  mtu : sendMtu - 5 < 65536
  valid : validate cfg.fields = true
  fields : ∀ f ∈ cfg.fields, FieldOk f
  nodup : NoDup (cfg.fields.map (·.name))
  names_ne : cfg.names ≠ []
  names : ∀ n ∈ cfg.names, n ≠ [] ∧ n.length < maxLen
  count : cfg.names.length ≤ maxModules

theorem devmodHead_ok (cfg : DevCfg) (hf : ∀ f ∈ cfg.fields, FieldOk f) (hnd : NoDup (cfg.fields.map (·.name))) :
    ((devmodHead cfg).map (·.1)).Nodup ∧
    ∀ m ∈ devmodHead cfg, m.2 ≠ [] ∧ m.1 ≠ [] ∧ rawKeyLen m.1 ≤ 65535 ∧ m.1 ≠ modulesKey := by
  have hfs : ∀ f ∈ cfg.fields.filter (·.val ≠ []), f.name.length ≤ 7 ∧ f.name ≠ nActive ∧ f.name ≠ nNum ∧ f.name ≠ nModules :=
    fun f h => fieldOk_name f (hf f (List.mem_filter.1 h).1)
  constructor
  · have hk : (devmodHead cfg).map (·.1) =
        (nActive :: ((cfg.fields.filter (·.val ≠ [])).map (·.name) ++ [nNum])).map (mkKey nDevmod) := by
      simp [devmodHead, descrMsgs, numKey, Function.comp_def]
    rw [hk]
    refine List.Pairwise.map _ (fun a b h e => h (mkKey_inj _ _ _ e)) (List.nodup_cons.2 ⟨?_, List.nodup_append.2 ⟨?_, ?_, ?_⟩⟩)
    · simp only [List.mem_append, List.mem_map, List.mem_singleton, not_or]
      exact ⟨fun ⟨f, h, e⟩ => (hfs f h).2.1 e, by decide⟩
    · exact nodup_filter_names _ hnd _
    · simp
    · simp only [List.mem_map, List.mem_singleton]
      rintro _ ⟨f, h, rfl⟩ _ rfl
      exact (hfs f h).2.2.1
  · intro m hm
    simp only [devmodHead, descrMsgs, List.mem_append, List.mem_cons, List.mem_map, List.not_mem_nil, or_false] at hm
    rcases hm with (rfl | ⟨f, h, rfl⟩) | rfl
    · exact ⟨by decide, devmodKey_ok nActive (by decide) (by decide)⟩
    · exact ⟨field_enc_ne f, devmodKey_ok f.name (by have := (hfs f h).1; omega) (hfs f h).2.2.2⟩
    · exact ⟨by simp [encode, encHead_ne], devmodKey_ok nNum (by decide) (by decide)⟩

theorem devmodOps_parts (sendMtu : Nat) (cfg : DevCfg) (ops : List Op)
    (h : devmodOps .repaired sendMtu cfg = some ops) :
    ∃ l1 o1 cs l2 o2, emitAll .repaired (sendMtu - 5) (sendMtu - 5) (devmodHead cfg) = some (l1, o1) ∧
      moduleChunks (chunkFits .repaired (sendMtu - 5)) 0 [] cfg.names = some cs ∧
      emitAll .repaired (sendMtu - 5) (sendMtu - 5) (chunkMsgs cs) = some (l2, o2) ∧ ops = o1 ++ .yield :: o2 := by
  revert h
  -- `Devmod.Write` gives up in four places (`validate`, the two `emitAll`, `moduleChunks`): `cases h` closes those and
  -- leaves its result. There `writeLimit .repaired sendMtu` is `sendMtu - 5` and the mapped chunk list is `chunkMsgs cs`,
  -- both by `rfl`.
  fun_cases devmodOps .repaired sendMtu cfg <;> intro h <;> cases h
  next l1 o1 he1 cs hcs l2 o2 he2 => exact ⟨l1, o1, cs, l2, o2, he1, hcs, he2, rfl⟩

theorem cfgOk_chunks {sendMtu : Nat} {cfg : DevCfg} (hok : CfgOk sendMtu cfg) {fits : Nat → List Bytes → Bool}
    {cs : List (Nat × List Bytes)} (hcs : moduleChunks fits 0 [] cfg.names = some cs) :
    catNames cs = cfg.names ∧ StartsOK 0 cs ∧ ∀ c ∈ cs, ChunkWF c := by
  obtain ⟨hcat, hstarts, _⟩ := moduleChunks_spec hcs
  exact ⟨hcat, hstarts, chunkWF_of_starts cs hstarts (hcat ▸ hok.count) (hcat ▸ fun n hn => (hok.names n hn).2)⟩

/-- THE DEVMOD ROUND, the device: what `Devmod.Write` hands to the real chunker arrives as whole messages, in
68 messages of which only the last is without IsMoreServiceInfo. -/
theorem devmod_written (sendMtu : Nat) (cfg : DevCfg) (hok : CfgOk sendMtu cfg) (ops : List Op)
    (hops : devmodOps .repaired sendMtu cfg = some ops) :
    ∃ cs, moduleChunks (chunkFits .repaired (sendMtu - 5)) 0 [] cfg.names = some cs ∧
      (allBatches .repaired (sendMtu - 5) (compile ops)).fin = .done ∧
      LastOnly (allBatches .repaired (sendMtu - 5) (compile ops)).batches ∧
      flatten (allBatches .repaired (sendMtu - 5) (compile ops)).batches = (devmodHead cfg ++ chunkMsgs cs).map kvOf := by
  obtain ⟨l1, o1, cs, l2, o2, he1, hcs, he2, rfl⟩ := devmodOps_parts sendMtu cfg ops hops
  have hhead := (devmodHead_ok cfg hok.fields hok.nodup).2
  have hmsg2 : ∀ m ∈ chunkMsgs cs, m.2 ≠ [] ∧ m.1 ≠ [] ∧ rawKeyLen m.1 ≤ 65535 := by
    simp only [chunkMsgs, List.mem_map]
    rintro _ ⟨x, _, rfl⟩
    exact ⟨chunkEnc_ne _ _, show modulesKey ≠ [] by decide, show rawKeyLen modulesKey ≤ 65535 by decide⟩
  obtain ⟨_, k2, f2⟩ := emitAll_fit .repaired rfl _ _ _ l2 o2 he2 hmsg2
  obtain ⟨_, k1, f1⟩ := emitAll_fit .repaired rfl _ _ _ l1 o1 he1
    (fun m hm => ⟨(hhead m hm).1, (hhead m hm).2.1, (hhead m hm).2.2.1⟩)
  rw [compile_append _ _ (by trivial), compile_yield]
  have f2' : FitQ (sendMtu - 5) (sendMtu - 5) (compile o2) := List.append_nil (compile o2) ▸ f2 [] trivial
  obtain ⟨hdone, hlast, hflat⟩ := whole_round _ hok.mtu _ (f1 (.yield :: compile o2) f2')
  rw [kvsOf_append, k1, show kvsOf (.yield :: compile o2) = kvsOf (compile o2) from rfl, k2, ← List.map_append] at hflat
  exact ⟨cs, hcs, hdone, hlast, hflat⟩

/-- THE DEVMOD ROUND, the owner's module: these messages handled one after another leave the device's non-empty
descriptors, latest first, and its module list. -/
theorem devmod_handled {sendMtu : Nat} {cfg : DevCfg} (hok : CfgOk sendMtu cfg) {fits : Nat → List Bytes → Bool}
    {cs : List (Nat × List Bytes)} (hcs : moduleChunks fits 0 [] cfg.names = some cs) :
    dmHandleAll .repaired DmState.init (devmodHead cfg ++ chunkMsgs cs) =
      .ok ⟨((cfg.fields.filter (·.val ≠ [])).map fun f => (f.name, f.val)).reverse, some cfg.names, false⟩ := by
  obtain ⟨hcat, hstarts, hwf⟩ := cfgOk_chunks hok hcs
  have hh : devmodHead cfg = ((mkKey nDevmod nActive, cbTrue) :: fieldMsgs (cfg.fields.filter (·.val ≠ []))) ++
      [(numKey, encode (.uint cfg.names.length))] := rfl
  have := applyAll_fill .repaired cs [] (fun m hm => by cases hm) (hcat ▸ fun m hm => (hok.names m hm).1) hstarts
  rw [hcat, List.nil_append, List.nil_append] at this
  simp only [hh, dmHandleAll_append, dmHandleAll, numKey, cutKey_devmod, dmHandle_active, Out.bind,
    seq_fields .repaired _ _ (fun f hf => hok.fields f (List.mem_filter.1 hf).1), dmHandle_num _ _ hok.count, DmState.init]
  rw [dmHandleAll_chunks .repaired cs hwf _ _ rfl, this, Out.bind,
    setAll_nodup _ _ (nodup_filter_names _ hok.nodup _) (fun _ _ p hp => by cases hp),
    List.append_nil]

/-- `C16.owner_gets_devmod` before the steps of the system are counted: the three parts put together. -/
theorem devmod_round (c : Cfg) (hF : c.F = .repaired) (hok : CfgOk c.sendMtu c.dev) (ops : List Op)
    (hops : devmodOps .repaired c.sendMtu c.dev = some ops) :
    (allBatches .repaired (c.sendMtu - 5) (compile ops)).fin = .done ∧
    ∃ o', ownFold (Own.init c) (allBatches .repaired (c.sendMtu - 5) (compile ops)).batches = .ok o' ∧
      o'.dm.complete = true ∧ o'.dm.mods = some c.dev.names ∧
      (∀ f ∈ c.dev.fields, f.val ≠ [] → o'.dm.get f.name = f.val) ∧
      (∀ p ∈ o'.dm.fields, ∃ f ∈ c.dev.fields, f.val ≠ [] ∧ p = (f.name, f.val)) ∧
      o'.stage ≠ .devmod ∧ o'.log = [] := by
  obtain ⟨cs, hcs, hdone, hlast, hflat⟩ := devmod_written c.sendMtu c.dev hok ops hops
  obtain ⟨hnd, hhead⟩ := devmodHead_ok c.dev hok.fields hok.nodup
  have hseq := devmod_handled hok hcs
  refine ⟨hdone, ?_⟩
  let fs' := c.dev.fields.filter (·.val ≠ [])
  have hget : ∀ f ∈ fs', ((fs'.map fun f => (f.name, f.val)).reverse.lookup f.name).getD [] = f.val := by
    intro f hf
    rw [lookup_of_mem _ f.name f.val
      (by rw [List.map_reverse, List.map_map]
          exact List.pairwise_reverse.2 ((nodup_filter_names _ hok.nodup _).imp Ne.symm))
      (by simpa using ⟨f, hf, rfl, rfl⟩)]
    rfl
  have hwhole := whole_msgs _ cs hnd (fun m hm => ⟨(hhead m hm).2.1, (hhead m hm).2.2.2⟩) (cfgOk_chunks hok hcs).2.2
  have hpairs : pairs ((devmodHead c.dev ++ chunkMsgs cs).map kvOf) = devmodHead c.dev ++ chunkMsgs cs := by
    simp [pairs, kvOf, Function.comp_def]
  let dfin : DmState := ⟨(fs'.map fun f => (f.name, f.val)).reverse, some c.dev.names, false⟩
  have hreq : requiredNames.all (fun r => dfin.get r ≠ []) = true := by
    have hv := hok.valid
    simp only [validate, List.all_eq_true, List.any_eq_true, Bool.and_eq_true, decide_eq_true_eq] at hv ⊢
    intro r hr
    obtain ⟨f, hf, rfl, hfv⟩ := hv r hr
    rw [DmState.get, hget f (List.mem_filter.2 ⟨hf, by simpa using hfv⟩)]
    exact hfv
  obtain ⟨o', h1, h2, h3, h4, h5, h6⟩ := devmod_fold _ (Own.init c) (d := DmState.init) (dfin := dfin) (names := c.dev.names)
    (hst := rfl) (hlast := hlast) (hw := hflat ▸ hwhole) (hsim := rfl) (hseq := by rw [hflat, hpairs]; exact (show (Own.init c).F = .repaired from hF) ▸ hseq)
    (hmods := rfl) (hne := hok.names_ne) (hnn := fun m hm => (hok.names m hm).1) (hreq := hreq)
  refine ⟨o', h1, h2, h4, fun f hf hv => ?_, fun p hp => ?_, h5, h6⟩
  · rw [DmState.get, h3]
    exact hget f (List.mem_filter.2 ⟨hf, by simpa using hv⟩)
  · rw [h3] at hp
    simp only [dfin, List.mem_reverse, List.mem_map] at hp
    obtain ⟨f, hf, rfl⟩ := hp
    exact ⟨f, (List.mem_filter.1 hf).1, by simpa using (List.mem_filter.1 hf).2, rfl⟩

/-! ### the first round in the system -/

theorem Sys.init_eq (c : Cfg) (ops : List Op) (hops : devmodOps c.F c.sendMtu c.dev = some ops)
    (hdone : (allBatches .repaired (c.sendMtu - 5) (compile ops)).fin = .done) :
    Sys.init c = ⟨c.sendMtu, ⟨c.devMods, [], [], [], []⟩, Own.init c,
      (allBatches .repaired (c.sendMtu - 5) (compile ops)).batches, [], .run, 0, 1⟩ := by
  unfold Sys.init
  simp only [hops, startRound, hdone, if_true]

theorem startRound_own (s : Sys) (ops : List Op) : (startRound s ops).own = s.own := by
  unfold startRound; simp only; split <;> rfl

theorem nextRound_own (s : Sys) : (nextRound s).own = s.own := by
  unfold nextRound; simp only
  split
  · rfl
  · split
    · rfl
    · rw [startRound_own]

theorem finish_own (s : Sys) : (finish s).own = s.own := by
  unfold finish
  split
  · rfl
  · split <;> rfl

theorem step_own (s : Sys) (b : Batch) (rest : List Batch) (own' : Own) (reply : Reply) (hph : s.phase = .run)
    (hp : s.pending = b :: rest) (hos : ownStep s.own b = .ok (own', reply)) :
    (step s).own = own' ∧ (rest ≠ [] → (step s).phase = .run ∧ (step s).pending = rest) := by
  simp only [step, hph, hp, hos]
  cases rest with
  | cons c r => rw [if_pos (List.cons_ne_nil c r)]; exact ⟨rfl, fun _ => ⟨rfl, rfl⟩⟩
  | nil =>
    rw [if_neg (fun h => h rfl)]
    refine ⟨?_, fun h => absurd rfl h⟩
    by_cases h1 : b.more = true ∨ reply.more = true
    · rw [if_pos h1]
    rw [if_neg h1]
    by_cases h2 : reply.done = true
    · rw [if_pos h2, finish_own]
    · rw [if_neg h2, nextRound_own]

/-- The steps of a round hand its 68 messages to `ownerServiceInfo` one after another. -/
theorem runN_ownFold (bs : List Batch) : ∀ (s : Sys) (o' : Own), s.phase = .run → s.pending = bs →
    ownFold s.own bs = .ok o' → (runN bs.length s).own = o' := by
  induction bs with
  | nil => intro s o' _ _ h; cases h; rfl
  | cons b r ih =>
    intro s o' hph hp hf
    simp only [ownFold] at hf
    cases hos : ownStep s.own b with
    | reject | panic x => rw [hos] at hf; cases hf
    | ok p =>
      obtain ⟨own', reply⟩ := p
      rw [hos] at hf
      obtain ⟨h1, h2⟩ := step_own s b r own' reply hph hp hos
      cases r with
      | nil => cases hf; exact h1
      | cons c t => exact ih _ o' (h2 (by simp)).1 (h2 (by simp)).2 (h1 ▸ hf)

/-! ### the owner's modules run one after another -/

/-- The rule for the owner's log, as a checker: every event belongs to the module that is current
(`cur`); the current module changes only by a ProduceInfo that reported done, to the next one. -/
def seqCheck : Nat → List OEv → Bool
  | _, [] => true
  | cur, .handle i _ _ :: r => i == cur && seqCheck cur r
  | cur, .produce i false :: r => i == cur && seqCheck cur r
  | cur, .produce i true :: r => i == cur && seqCheck (cur + 1) r

/-- Number of modules that have reported done. -/
def doneCount : List OEv → Nat
  | [] => 0
  | .produce _ true :: r => doneCount r + 1
  | _ :: r => doneCount r

theorem seqCheck_append (a b : List OEv) : ∀ c, seqCheck c (a ++ b) = (seqCheck c a && seqCheck (c + doneCount a) b) := by
  induction a with
  | nil => intro c; simp [seqCheck, doneCount]
  | cons e r ih =>
    intro c
    cases e with
    | handle i m v => simp [seqCheck, doneCount, ih, Bool.and_assoc]
    | produce i d =>
      cases d with
      | false => simp [seqCheck, doneCount, ih, Bool.and_assoc]
      | true =>
        have e : c + 1 + doneCount r = c + (doneCount r + 1) := by omega
        simp only [List.cons_append, seqCheck, doneCount, ih, Bool.and_assoc, e]

theorem doneCount_append (a b : List OEv) : doneCount (a ++ b) = doneCount a + doneCount b := by
  induction a with
  | nil => simp [doneCount]
  | cons e r ih =>
    cases e with
    | handle i m v => simp [doneCount, ih]
    | produce i d => cases d <;> simp [doneCount, ih] <;> omega

theorem seqCheck_handles (i : Nat) (ms : List (Bytes × Bytes)) : seqCheck i (handleEvents i ms) = true ∧
    doneCount (handleEvents i ms) = 0 := by
  induction ms with
  | nil => exact ⟨rfl, rfl⟩
  | cons m r ih =>
    simp only [handleEvents, List.map_cons, seqCheck, doneCount] at ih ⊢
    simp [ih.1, ih.2]

/-- What holds of the owner at every moment. -/
structure OwnInv (o : Own) : Prop where
  seq : seqCheck 0 o.log = true
  idx : doneCount o.log = o.idx
  /-- the devmod module is the current one exactly while devmod is incomplete, and nothing is logged then -/
  dm : o.stage = .devmod → o.log = [] ∧ o.idx = 0
  /-- IsDone has been sent exactly when no module is left -/
  fin : o.stage = .finished ↔ (o.stage ≠ .devmod ∧ o.mods = [])
  /-- and then the last thing the last module did was to report done -/
  last : o.stage = .finished → o.idx = 0 ∨ o.log.getLast? = some (.produce (o.idx - 1) true)

theorem ownInv_init (c : Cfg) : OwnInv (Own.init c) :=
  ⟨rfl, rfl, fun _ => ⟨rfl, rfl⟩, by simp [Own.init], by simp [Own.init]⟩

/-- The ways `ownerServiceInfo` succeeds: in the devmod stage only `dm` changes, until devmod is complete and the
first module is selected; a running module is handed the messages and, after the last 68 of a round, asked to produce. -/
theorem ownStep_ok (o : Own) (b : Batch) (o' : Own) (rep : Reply) (h : ownStep o b = .ok (o', rep)) :
    ∃ msgs, reassembleF o.F b.kvs = .ok msgs ∧
    ((o.stage = .devmod ∧ ∃ dm, rep.kvs = [] ∧ rep.more = false ∧
        ((rep.done = false ∧ o' = { o with dm := dm }) ∨
         (b.more = false ∧ ∃ ms, rep.done = decide (ms = []) ∧
            o' = { o with dm := dm, mods := ms, stage := if ms = [] then .finished else .running }))) ∨
     (o.stage = .running ∧ ∃ cur rest, o.mods = cur :: rest ∧ (∀ c ∈ rep.kvs, c.key ≠ []) ∧
        ((rep = Reply.empty ∧ b.more = true ∧ o' = { o with log := o.log ++ handleEvents o.idx msgs }) ∨
         (b.more = false ∧ rep.more = false ∧ rep.done = decide (rest = []) ∧
            o' = { o with log := o.log ++ handleEvents o.idx msgs ++ [.produce o.idx true], idx := o.idx + 1,
                          mods := rest, stage := if rest = [] then .finished else .running }) ∨
         (b.more = false ∧ rep.done = false ∧ ∃ cur',
            o' = { o with log := o.log ++ handleEvents o.idx msgs ++ [.produce o.idx false], mods := cur' :: rest })))) := by
  have hkeys : ∀ (n : Bytes) (l : List (Bytes × Bytes)), ∀ c ∈ l.map (fun (m, v) => (⟨mkKey n m, v⟩ : KV)), c.key ≠ [] := by
    intro n l c hc
    obtain ⟨m, _, rfl⟩ := List.mem_map.1 hc
    simp [mkKey]
  revert h
  -- of the fourteen ends of `ownStep`, in the order of its definition, six are values: 5, 8, 9 in the devmod stage
  -- (more to come, devmod incomplete, complete), 11, 13, 14 with a module running (more to come, done, not done)
  fun_cases ownStep o b with
  | case5 msgs hre hst | case8 msgs hre hst =>
    intro h; cases h; exact ⟨msgs, hre, .inl ⟨hst, _, rfl, rfl, .inl ⟨rfl, rfl⟩⟩⟩
  | case9 msgs hre hst _ _ hm =>
    intro h; cases h; exact ⟨msgs, hre, .inl ⟨hst, _, rfl, rfl, .inr ⟨by simpa using hm, _, rfl, rfl⟩⟩⟩
  | case11 msgs hre hst cur rest hmods _ hm =>
    intro h; obtain ⟨rfl, rfl⟩ := Prod.mk.inj (Out.ok.inj h)
    exact ⟨msgs, hre, .inr ⟨hst, cur, rest, hmods, by simp [Reply.empty], .inl ⟨rfl, hm, rfl⟩⟩⟩
  | case13 msgs hre hst cur rest hmods _ hm =>
    intro h; obtain ⟨rfl, rfl⟩ := Prod.mk.inj (Out.ok.inj h)
    exact ⟨msgs, hre, .inr ⟨hst, cur, rest, hmods, hkeys _ _, .inr (.inl ⟨by simpa using hm, rfl, rfl, rfl⟩)⟩⟩
  | case14 msgs hre hst cur rest hmods _ hm =>
    intro h; obtain ⟨rfl, rfl⟩ := Prod.mk.inj (Out.ok.inj h)
    exact ⟨msgs, hre, .inr ⟨hst, cur, rest, hmods, hkeys _ _, .inr (.inr ⟨by simpa using hm, rfl, _, rfl⟩)⟩⟩
  | _ => nofun

theorem ite_stage_fin {α : Type} (l : List α) : (if l = [] then Stage.finished else Stage.running) = .finished ↔ l = [] := by
  split <;> simp [*]

/-- One TO2.DeviceServiceInfo keeps `OwnInv`, and the reply goes with the new state: IsDone exactly when this call
made the stage `finished`; never with IsMoreServiceInfo on either side; no KV with an empty key. -/
theorem ownStep_inv (o : Own) (b : Batch) (o' : Own) (rep : Reply) (h : ownStep o b = .ok (o', rep)) (hi : OwnInv o) :
    OwnInv o' ∧ (rep.done = true ↔ (o'.stage = .finished ∧ o.stage ≠ .finished)) ∧
    (rep.done = true → rep.more = false ∧ b.more = false) ∧ (∀ c ∈ rep.kvs, c.key ≠ []) := by
  -- the stage after the next module has been selected from `ms`, and the IsDone that goes with it
  have next : ∀ ms : List OwnMod, o.stage ≠ .finished →
      ((if ms = [] then Stage.finished else .running) = .finished ↔
        (if ms = [] then Stage.finished else .running) ≠ .devmod ∧ ms = []) ∧
      (decide (ms = []) = true ↔ (if ms = [] then Stage.finished else .running) = .finished ∧ o.stage ≠ .finished) :=
    fun ms hnf => ⟨⟨fun h => ⟨ite_stage_ne _, (ite_stage_fin ms).1 h⟩, fun h => (ite_stage_fin ms).2 h.2⟩,
      by rw [decide_eq_true_eq, ite_stage_fin]; exact ⟨fun h => ⟨h, hnf⟩, fun h => h.1⟩⟩
  obtain ⟨msgs, _, ⟨hst, dm, hk, hm, h⟩ | ⟨hst, cur, rest, hmods, hk, h⟩⟩ := ownStep_ok o b o' rep h
  · have hlog := hi.dm hst
    have hnf : o.stage ≠ .finished := by rw [hst]; nofun
    have hkv : ∀ c ∈ rep.kvs, c.key ≠ [] := by rw [hk]; nofun
    rcases h with ⟨hd, rfl⟩ | ⟨hb, ms, hd, rfl⟩
    · -- devmod goes on
      exact ⟨{ seq := hi.seq, idx := hi.idx, dm := fun _ => hlog, fin := by simp [hst], last := by simp [hst] },
        by simp [hd, hst], by simp [hd], hkv⟩
    · -- devmod complete: the first module is selected from `ms`
      exact ⟨{ seq := hi.seq, idx := hi.idx, dm := fun hh => absurd hh (ite_stage_ne _), fin := (next ms hnf).1,
               last := fun _ => Or.inl hlog.2 },
        hd ▸ (next ms hnf).2, fun _ => ⟨hm, hb⟩, hkv⟩
  · have hnf : o.stage ≠ .finished := by rw [hst]; nofun
    have hev := seqCheck_handles o.idx msgs
    have hseq1 : seqCheck 0 (o.log ++ handleEvents o.idx msgs) = true := by
      rw [seqCheck_append, hi.seq, hi.idx]; simpa using hev.1
    have hidx1 : doneCount (o.log ++ handleEvents o.idx msgs) = o.idx := by
      rw [doneCount_append, hev.2, hi.idx]; rfl
    have hseq2 : ∀ d, seqCheck 0 (o.log ++ handleEvents o.idx msgs ++ [.produce o.idx d]) = true := fun d => by
      rw [seqCheck_append, hseq1, hidx1]; cases d <;> simp [seqCheck]
    rcases h with ⟨rfl, hb, rfl⟩ | ⟨hb, hm, hd, rfl⟩ | ⟨hb, hd, cur', rfl⟩
    · -- HandleInfo only: more 68 messages of the round to come
      exact ⟨{ seq := hseq1, idx := hidx1, dm := by simp [hst], fin := by simp [hst, hmods], last := by simp [hst] },
        by simp [Reply.empty, hst], nofun, hk⟩
    · -- the module reports done: the next one is selected from `rest`
      exact ⟨{ seq := hseq2 true, idx := by rw [doneCount_append, hidx1]; rfl,
               dm := fun hh => absurd hh (ite_stage_ne _), fin := (next rest hnf).1, last := fun _ => Or.inr (by simp) },
        hd ▸ (next rest hnf).2, fun _ => ⟨hm, hb⟩, hk⟩
    · -- the module goes on
      exact ⟨{ seq := hseq2 false, idx := by rw [doneCount_append, hidx1]; rfl, dm := by simp [hst],
               fin := by simp [hst], last := by simp [hst] },
        by simp [hd, hst], by simp [hd], hk⟩

/-! ### the device: activation -/

/-- The rule for the device's log, as a checker that tracks the set of active modules: a module
becomes active only through an owner message `active = true` handled for it (`res` only if `val`), it
stops being active through `active = false`, and Receive / Yield happen only for active modules.
The result is the active set at the end, `none` if the rule was broken. -/
def actTrack : List Bytes → List DEv → Option (List Bytes)
  | act, [] => some act
  | act, .active m v res :: r => if res && !v then none else actTrack (setActive act m res) r
  | act, .trans _ _ :: r => actTrack act r
  | act, .recv m _ _ :: r => if m ∈ act then actTrack act r else none
  | act, .yield m :: r => if m ∈ act then actTrack act r else none

theorem actTrack_append (a b : List DEv) : ∀ act, actTrack act (a ++ b) = (actTrack act a).bind (fun x => actTrack x b) := by
  induction a with
  | nil => intro act; rfl
  | cons e r ih =>
    intro act
    cases e with
    | active m v res => simp only [List.cons_append, actTrack]; split <;> simp [ih]
    | trans m a => simp only [List.cons_append, actTrack, ih]
    | recv m n b => simp only [List.cons_append, actTrack]; split <;> simp [ih]
    | yield m => simp only [List.cons_append, actTrack]; split <;> simp [ih]

theorem known_popRecv (m x : Bytes) (mods : List DevMod) : known (popRecv m mods).2 x = known mods x := by
  induction mods with
  | nil => rfl
  | cons d r ih => unfold popRecv; split <;> simp_all [known]

theorem known_popYield (m x : Bytes) (mods : List DevMod) : known (popYield m mods).2 x = known mods x := by
  induction mods with
  | nil => rfl
  | cons d r ih => unfold popYield; split <;> simp_all [known]

/-- What may be logged by a device with the modules `mods`: a module it does not have (other than devmod)
answers every activation with "inactive" and never receives anything. -/
def EvOk (mods : List DevMod) : DEv → Prop
  | .active m _ res => known mods m = false → m ≠ nDevmod → res = false
  | .recv m _ _ => known mods m = true ∨ m = nDevmod
  | _ => True

/-- What holds of the device's module bookkeeping at every moment. -/
structure DevInv (d : Dev) : Prop where
  track : actTrack [] d.log = some d.active
  /-- only configured modules (and devmod) are ever active -/
  act : ∀ m ∈ d.active, known d.mods m = true ∨ m = nDevmod
  evs : ∀ e ∈ d.log, EvOk d.mods e

theorem mem_setActive (act : List Bytes) (m x : Bytes) (a : Bool) (h : x ∈ setActive act m a) :
    (x ∈ act ∧ (a = false → x ≠ m)) ∨ (x = m ∧ a = true) := by
  unfold setActive at h
  cases a with
  | true =>
    simp only [if_true] at h
    split at h
    · exact Or.inl ⟨h, nofun⟩
    · exact (List.mem_cons.1 h).elim (fun h => Or.inr ⟨h, rfl⟩) (fun h => Or.inl ⟨h, nofun⟩)
  | false => exact Or.inl ⟨(List.mem_filter.1 h).1, fun _ => by simpa using (List.mem_filter.1 h).2⟩

theorem mem_setActive_self (act : List Bytes) (m : Bytes) : m ∈ setActive act m true := by
  unfold setActive
  simp only [if_true]
  split
  · assumption
  · exact List.mem_cons_self ..

theorem EvOk.congr {mods mods' : List DevMod} (hk : ∀ x, known mods' x = known mods x) (e : DEv) :
    EvOk mods' e = EvOk mods e := by
  cases e <;> simp only [EvOk, hk]

/-- The bookkeeping after more events, for a device whose module names have not changed. -/
theorem DevInv.append {d : Dev} (hi : DevInv d) (mods' : List DevMod) (hk : ∀ x, known mods' x = known d.mods x)
    (evs : List DEv) (act' : List Bytes) (prev' prevIn' : Bytes)
    (ht : actTrack d.active evs = some act') (ha : ∀ m ∈ act', known d.mods m = true ∨ m = nDevmod)
    (he : ∀ e ∈ evs, EvOk d.mods e) : DevInv ⟨mods', act', prev', prevIn', d.log ++ evs⟩ :=
  ⟨by simp only [actTrack_append, hi.track, Option.bind_some, ht], fun m hm => hk m ▸ ha m hm,
    fun e hm => EvOk.congr hk e ▸ (List.mem_append.1 hm).elim (hi.evs e) (he e)⟩

theorem DevInv.prev {d : Dev} (hi : DevInv d) (p q : Bytes) : DevInv { d with prev := p, prevIn := q } :=
  ⟨hi.track, hi.act, hi.evs⟩

/-- An `active` message handled for `m` with value `a` and result `a'`, after the Transition call `tr` if any. -/
theorem DevInv.active {d : Dev} (hi : DevInv d) (m p q : Bytes) (a a' : Bool) (tr : List DEv)
    (htr : tr = [] ∨ tr = [DEv.trans m a]) (h1 : a' = true → a = true)
    (h2 : a' = true → m ∈ d.active ∨ known d.mods m = true ∨ m = nDevmod) :
    DevInv ⟨d.mods, setActive d.active m a', p, q, d.log ++ tr ++ [.active m a a']⟩ := by
  have hact : known d.mods m = false → m ≠ nDevmod → a' = false := by
    intro hk hd
    cases a' with
    | false => rfl
    | true =>
      rcases h2 rfl with h | h | h
      · rcases hi.act m h with h | h
        · rw [hk] at h; cases h
        · exact absurd h hd
      · rw [hk] at h; cases h
      · exact absurd h hd
  rw [List.append_assoc]
  refine hi.append d.mods (fun _ => rfl) _ _ p q ?_ (fun x hx => ?_) (fun e he => ?_)
  · have : (a' && !a) = false := by cases a' <;> simp_all
    rcases htr with rfl | rfl <;> simp [actTrack, this]
  · rcases mem_setActive _ _ _ _ hx with ⟨h, _⟩ | ⟨rfl, h⟩
    · exact hi.act x h
    · rcases h2 h with h | h | h
      · exact hi.act x h
      · exact Or.inl h
      · exact Or.inr h
  · rcases htr with rfl | rfl <;> simp only [List.nil_append, List.cons_append, List.mem_cons, List.not_mem_nil, or_false] at he
    · subst he; exact hact
    · rcases he with rfl | rfl
      · trivial
      · exact hact

/-- What one owner message does to the device's bookkeeping: nothing but `prev` (a malformed `active`, or a message
for a module that is not active: an error); an `active` with value `a` and result `a'`; or a Receive, which uses up a
reaction of the module. -/
theorem handleOne_dev (d : Dev) (key body m n : Bytes) (hk : cutKey key = (m, n)) :
    ((handleOne d key body).dev = { d with prev := m } ∧ (n ≠ nActive → (handleOne d key body).err = true)) ∨
    (∃ a a' tr, n = nActive ∧ (tr = [] ∨ tr = [DEv.trans m a]) ∧ (a' = true → a = true) ∧
      (a' = true → m ∈ d.active ∨ known d.mods m = true ∨ m = nDevmod) ∧
      (handleOne d key body).dev = ⟨d.mods, setActive d.active m a', m, d.prevIn, d.log ++ tr ++ [.active m a a']⟩) ∨
    (∃ mods', n ≠ nActive ∧ m ∈ d.active ∧ (∀ x, known mods' x = known d.mods x) ∧
      (handleOne d key body).dev = ⟨mods', d.active, m, d.prevIn, d.log ++ [.recv m n body]⟩) := by
  obtain ⟨rfl, rfl⟩ : m = (cutKey key).1 ∧ n = (cutKey key).2 := by rw [hk]; exact ⟨rfl, rfl⟩
  have htr : ∀ (c : Prop) [Decidable c] (x : DEv), (if c then [x] else []) = [] ∨ (if c then [x] else []) = [x] :=
    fun c _ x => by split <;> simp
  -- the ends of `handleOne`, in the order of its definition: a well-formed `active` (1, 2), a malformed one (3, 4),
  -- a message for a module that is not active (5), for one the device has (6), for one it does not have (7)
  -- (names in 1, 2: the `let`s `m n d`; `hn`; the head byte `b` with its two facts; the `let`s `a prevA tr`; the guard)
  fun_cases handleOne d key body with
  | case1 _ _ _ hn b _ _ a prevA _ hc =>
    -- no reply: deactivation, or already active
    simp only [a, prevA, Bool.or_eq_true, Bool.not_eq_true', decide_eq_true_eq] at hc
    exact .inr (.inl ⟨decide (b = 0xf5), decide (b = 0xf5), _, hn, htr _ _, id,
      fun h => .inl (hc.resolve_left (by simp [h])), rfl⟩)
  | case2 _ _ _ hn b _ _ a prevA _ hc =>
    -- activation of a module that was not active: reply
    simp only [a, prevA, Bool.or_eq_true, Bool.not_eq_true', decide_eq_true_eq, not_or] at hc
    exact .inr (.inl ⟨decide (b = 0xf5), known d.mods (cutKey key).1 || decide ((cutKey key).1 = nDevmod), _, hn, htr _ _,
      fun _ => by simpa using hc.1, fun h => .inr (by simpa using h), rfl⟩)
  | case3 _ _ _ hn | case4 _ _ _ hn => exact .inl ⟨rfl, fun h => absurd hn h⟩
  | case5 => exact .inl ⟨rfl, fun _ => rfl⟩
  | case6 _ _ _ hn hact => exact .inr (.inr ⟨_, hn, Decidable.not_not.1 hact, fun x => known_popRecv _ x _, rfl⟩)
  | case7 _ _ _ hn hact => exact .inr (.inr ⟨_, hn, Decidable.not_not.1 hact, fun _ => rfl, rfl⟩)

theorem handleOne_inv (d : Dev) (key body : Bytes) (hi : DevInv d) : DevInv (handleOne d key body).dev := by
  rcases handleOne_dev d key body _ _ rfl with ⟨h, _⟩ | ⟨a, a', tr, _, htr, h1, h2, h⟩ | ⟨mods', _, hact, hk, h⟩ <;> rw [h]
  · exact hi.prev _ _
  · exact hi.active _ _ _ a a' tr htr h1 h2
  · exact hi.append mods' hk [_] _ _ _ (by simp [actTrack, hact]) hi.act (List.forall_mem_singleton.2 (hi.act _ hact))

theorem handleYield_inv (d : Dev) (hi : DevInv d) : DevInv (handleYield d).dev := by
  unfold handleYield
  split
  · rename_i h
    exact hi.append _ (fun x => known_popYield _ x _) [_] _ _ _ (by simp [actTrack, h.1]) hi.act (by simp [EvOk])
  · exact hi

theorem handleAll_inv (d : Dev) (ms : List (Bytes × Bytes)) (hi : DevInv d) : DevInv (handleAll d ms).dev := by
  -- no message left: the yield; a message whose handling fails; a message and the rest
  fun_induction handleAll d ms with
  | case1 d => exact handleYield_inv d hi
  | case2 d k b => exact handleOne_inv d k b hi
  | case3 d k b _ _ _ _ ih => exact ih (handleOne_inv d k b hi)

/-! ### the whole system -/

structure SysInv (s : Sys) : Prop where
  own : OwnInv s.own
  dev : DevInv s.dev
  pend : s.phase = .run → LastOnly s.pending
  inbox : ∀ c ∈ s.inbox, c.key ≠ []
  done : s.phase = .done ↔ s.own.stage = .finished

theorem startRound_inv (s : Sys) (ops : List Op) (hown : OwnInv s.own) (hdev : DevInv s.dev)
    (hph : s.phase = .run) (hnf : s.own.stage ≠ .finished) (hin : ∀ c ∈ s.inbox, c.key ≠ []) :
    SysInv (startRound s ops) := by
  unfold startRound
  simp only
  split
  · exact ⟨hown, hdev, fun _ => rounds_lastOnly ‹_›, by simp, by simp [hph, hnf]⟩
  · exact ⟨hown, hdev, by simp, hin, by simp [hnf]⟩

theorem nextRound_inv (s : Sys) (hown : OwnInv s.own) (hdev : DevInv s.dev)
    (hph : s.phase = .run) (hnf : s.own.stage ≠ .finished) (hin : ∀ c ∈ s.inbox, c.key ≠ []) :
    SysInv (nextRound s) := by
  have hdev' : DevInv { (handleAll s.dev (reasm [] s.inbox).2).dev with prevIn := s.dev.prev } :=
    (handleAll_inv _ _ hdev).prev _ _
  unfold nextRound
  rw [reassembleF_ok _ _ hin]
  simp only
  split
  · exact ⟨hown, hdev', by simp, hin, by simp [hnf]⟩
  · exact startRound_inv _ _ hown hdev' hph hnf hin

theorem finish_inv (s : Sys) (hown : OwnInv s.own) (hdev : DevInv s.dev) (hfin : s.own.stage = .finished)
    (hin : ∀ c ∈ s.inbox, c.key ≠ []) : SysInv (finish s) := by
  unfold finish
  split
  · exact ⟨hown, hdev, by simp, hin, by simp [hfin]⟩
  · rw [reassembleF_ok _ _ hin]
    exact ⟨hown, handleAll_inv _ _ (hdev.prev _ _), by simp, hin, by simp [hfin]⟩

theorem step_inv (s : Sys) (hi : SysInv s) : SysInv (step s) := by
  unfold step
  split
  · rename_i b rest hph hpend
    have hlast := hpend ▸ hi.pend hph
    have hnf : s.own.stage ≠ .finished := fun h => by simpa [hph] using hi.done.2 h
    cases hos : ownStep s.own b with
    | reject | panic site => exact ⟨hi.own, hi.dev, by simp, hi.inbox, by simp [hnf]⟩
    | ok p =>
      obtain ⟨own', reply⟩ := p
      obtain ⟨hown', hdone, hdm, hkeys⟩ := ownStep_inv s.own b own' reply hos hi.own
      have hinbox : ∀ c ∈ s.inbox ++ reply.kvs, c.key ≠ [] :=
        fun c hc => (List.mem_append.1 hc).elim (hi.inbox c) (hkeys c)
      -- IsDone is not sent together with, or in answer to, IsMoreServiceInfo
      have hnd : b.more = true ∨ reply.more = true ∨ reply.done ≠ true → own'.stage ≠ .finished := by
        intro h hf
        have := hdm (hdone.2 ⟨hf, hnf⟩)
        rcases h with h | h | h
        · simp [h] at this
        · simp [h] at this
        · exact h (hdone.2 ⟨hf, hnf⟩)
      simp only
      cases rest with
      | cons c r =>
        -- more 68 messages of this round to send
        rw [if_pos (List.cons_ne_nil c r)]
        exact ⟨hown', hi.dev, fun _ => hlast.2, hinbox, by simp [hph, hnd (Or.inl hlast.1)]⟩
      | nil =>
        have hbm : b.more = false := hlast
        rw [if_neg (fun h => h rfl)]
        by_cases hor : b.more = true ∨ reply.more = true
        · -- the owner asked for another message
          rw [if_pos hor]
          exact ⟨hown', hi.dev, fun _ => rfl, hinbox, by simp [hph, hnd (Or.inr (Or.inl (by simpa [hbm] using hor)))]⟩
        rw [if_neg hor]
        by_cases hd : reply.done = true
        · rw [if_pos hd]; exact finish_inv _ hown' hi.dev (hdone.1 hd).1 hinbox
        · rw [if_neg hd]; exact nextRound_inv _ hown' hi.dev hph (hnd (Or.inr (Or.inr hd))) hinbox
  · exact hi

theorem runN_inv (n : Nat) : ∀ s, SysInv s → SysInv (runN n s) := by
  induction n with
  | zero => intro s h; exact h
  | succ n ih => intro s h; exact ih _ (step_inv s h)

theorem init_inv (c : Cfg) : SysInv (Sys.init c) := by
  have hd : DevInv ⟨c.devMods, [], [], [], []⟩ := ⟨rfl, fun m hm => (by cases hm), fun e he => (by cases he)⟩
  unfold Sys.init
  split
  · exact ⟨ownInv_init c, hd, by simp, by simp, by simp [Own.init]⟩
  · exact startRound_inv _ _ (ownInv_init c) hd rfl (by simp [Own.init]) (by simp)

/-! ### fragments and streams -/

theorem mc_idem (a : List (Bytes × Bytes)) : mergeConsecutive (mergeConsecutive a) = mergeConsecutive a := by
  simpa using mc_left a []

/-- What the owner's HandleInfo gets over a list of 68 messages: each message reassembled on its own. -/
def fragsAll : List Batch → List (Bytes × Bytes)
  | [] => []
  | b :: r => frags b ++ fragsAll r

/-- FRAGMENTS ADD UP: the per-message fragments of a round, consecutive fragments of one key
concatenated, are the merged chunks of the whole round. -/
theorem fragsAll_merge (bs : List Batch) (h : ∀ c ∈ flatten bs, c.key ≠ []) :
    mergeConsecutive (fragsAll bs) = mergeConsecutive (pairs (flatten bs)) := by
  induction bs with
  | nil => rfl
  | cons b r ih =>
    simp only [flatten_cons, List.mem_append] at h
    rw [fragsAll, frags, flatten_cons, pairs_append, reasm_eq_mc b.kvs (fun c hc => h c (Or.inl hc)), mc_left,
      mc_append, mc_append, ih (fun c hc => h c (Or.inr hc))]

/-- Part (1) of `C16.stream_exactly_once`. -/
theorem round_stream (mtu : Nat) (script : Script) (hu : UsableMtu mtu script) :
    (allBatches .repaired mtu script).fin = .done ∧
    mergeConsecutive (fragsAll (allBatches .repaired mtu script).batches) = mergeConsecutive (messages script) := by
  obtain ⟨hd, hkeys, hl⟩ := lossless_repaired mtu script hu
  exact ⟨hd, by rw [fragsAll_merge _ hkeys, hl]⟩

/-- The events of the device log that are Receive calls. -/
def recvsOf : List DEv → List (Bytes × Bytes × Bytes)
  | [] => []
  | .recv m n b :: r => (m, n, b) :: recvsOf r
  | _ :: r => recvsOf r

theorem recvsOf_append (a b : List DEv) : recvsOf (a ++ b) = recvsOf a ++ recvsOf b := by
  induction a with
  | nil => rfl
  | cons e r ih => cases e <;> simp [recvsOf, ih]

/-- The messages that are for modules (everything but `active`), as Receive sees them. -/
def forModules (ms : List (Bytes × Bytes)) : List (Bytes × Bytes × Bytes) :=
  (ms.filter fun m => (cutKey m.1).2 ≠ nActive).map fun m => ((cutKey m.1).1, (cutKey m.1).2, m.2)

theorem handleOne_recvs (d : Dev) (key body : Bytes) (h : (handleOne d key body).err = false) :
    recvsOf (handleOne d key body).dev.log = recvsOf d.log ++ forModules [(key, body)] := by
  have hf : forModules [(key, body)] =
      if (cutKey key).2 = nActive then [] else [((cutKey key).1, (cutKey key).2, body)] := by
    unfold forModules; split <;> simp [*]
  rcases handleOne_dev d key body _ _ rfl with ⟨hd, he⟩ | ⟨a, a', tr, hn, htr, _, _, hd⟩ | ⟨mods', hn, _, _, hd⟩ <;> rw [hd, hf]
  · by_cases hn : (cutKey key).2 = nActive
    · rw [if_pos hn, List.append_nil]
    · rw [he hn] at h; cases h
  · rw [if_pos hn, List.append_nil]
    rcases htr with rfl | rfl <;> simp [recvsOf_append, recvsOf]
  · rw [if_neg hn]; simp [recvsOf_append, recvsOf]

theorem handleYield_recvs (d : Dev) : recvsOf (handleYield d).dev.log = recvsOf d.log := by
  unfold handleYield
  split <;> simp [recvsOf_append, recvsOf]

/-- Part (3) of `C16.stream_exactly_once`. -/
theorem handleAll_recvs (d : Dev) (ms : List (Bytes × Bytes)) (h : (handleAll d ms).err = false) :
    recvsOf (handleAll d ms).dev.log = recvsOf d.log ++ forModules ms := by
  have cons : ∀ (m : Bytes × Bytes) r, forModules (m :: r) = forModules [m] ++ forModules r := fun m r => by
    simp only [forModules, List.filter_cons]; split <;> simp
  revert h
  -- the cases as in `handleAll_inv`
  fun_induction handleAll d ms with
  | case1 d => intro _; simp [handleYield_recvs, forModules]
  | case2 d k b _ _ he => intro h; rw [he] at h; cases h
  | case3 d k b r _ he _ ih =>
    intro h
    rw [ih h, handleOne_recvs d k b (by simpa using he), List.append_assoc, ← cons]

/-! ### no panics in the repaired code

Each function below ends in a value, an error, or what a function it calls returns: the ends that pass a panic on
(and the recursive calls) are taken by their number in the definition, the others are `nofun`.  Two of the repairs
are what it takes: `devmodBounds` for the owner's devmod module, `firstKey` for the ChunkWriter. -/

theorem applyChunk_no_panic (F : Fixes) (hb : F.devmodBounds = true) (mods : List Bytes) (s l : Int) (ns : List Bytes)
    (site : String) : applyChunk F mods s l ns ≠ .panic site := by
  fun_cases applyChunk F mods s l ns
  case case4 h => exact absurd hb h  -- the one end that panics, behind `¬ F.devmodBounds`
  all_goals nofun

theorem parseModules_no_panic (F : Fixes) (hb : F.devmodBounds = true) (f : Nat) (mods : List Bytes) (body : Bytes)
    (site : String) : parseModules F f mods body ≠ .panic site := by
  fun_induction parseModules F f mods body
  case case5 ih => exact ih
  case case7 hp => exact absurd hp (applyChunk_no_panic F hb _ _ _ _ _)
  all_goals nofun

theorem handleNum_no_panic (F : Fixes) (hb : F.devmodBounds = true) (n : Int) (s : String) :
    handleNum F n ≠ .panic s := by
  unfold handleNum
  rw [if_pos hb]
  split <;> nofun

theorem dmProduce_no_panic (d : DmState) (s : String) : dmProduce d ≠ .panic s := by
  fun_cases dmProduce d <;> nofun

theorem dmHandle_no_panic (F : Fixes) (hb : F.devmodBounds = true) (d : DmState) (name body : Bytes) (site : String) :
    dmHandle F d name body ≠ .panic site := by
  fun_cases dmHandle F d name body
  case case7 hn => exact absurd hn (handleNum_no_panic F hb _ _)
  case case10 hp => exact absurd hp (parseModules_no_panic F hb _ _ _ _)
  all_goals nofun

theorem dmHandleAll_no_panic (F : Fixes) (hb : F.devmodBounds = true) (d : DmState) (ms : List (Bytes × Bytes))
    (s : String) : dmHandleAll F d ms ≠ .panic s := by
  fun_induction dmHandleAll F d ms
  case case2 ih => exact ih
  case case4 hp => exact absurd hp (dmHandle_no_panic F hb _ _ _ _)
  all_goals nofun

theorem reassembleF_no_panic (F : Fixes) (hk : F.firstKey = true) (kvs : List KV) : reassembleF F kvs ≠ .panic := by
  fun_cases reassembleF F kvs
  case case3 h => exact absurd hk h
  all_goals nofun

/-- `ownerServiceInfo` passes on no panic: the ChunkWriter opens a pipe for an empty first key, the devmod module
rejects what made it panic, the scripted modules return values and errors only. -/
theorem ownStep_no_panic (o : Own) (hb : o.F.devmodBounds = true) (hk : o.F.firstKey = true) (b : Batch)
    (site : String) : ownStep o b ≠ .panic site := by
  fun_cases ownStep o b
  case case1 hre => exact absurd hre (reassembleF_no_panic o.F hk _)
  case case4 hdm => exact absurd hdm (dmHandleAll_no_panic o.F hb _ _ _)
  case case7 hp => exact absurd hp (dmProduce_no_panic _ _)
  all_goals nofun

end Fdo.Svc.Rounds
