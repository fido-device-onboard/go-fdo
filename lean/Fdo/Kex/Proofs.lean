import Fdo.Kex.Dh
/-
Lemmas for Props/C14.lean, and the predicates its statements use (`IsPoint`, `CrypterOk`, `DhPersistable` …).

The functions of Kex/Kdf.lean and Kex/Dh.lean that several theorems of C14 speak of are characterised once — the KDF loop
by the blocks it appends, `powMod` and `dhShared` in closed form, a session step by what it returned when it returned
a value — and the whole-session theorems of C14 are read off these characterisations (`ecdhShared`, `deriveKeys`, the
`…Restore` functions and `ecdhParamDecode` are unfolded where C14 needs them).
-/
namespace Fdo.Kex
open Fdo Fdo.Cbor

/-! ### KDF -/

theorem kdfCodeLoop_eq (prf : Bytes → Bytes → Bytes) (key ctx : Bytes) (L : Nat) (cnt i : Nat) (acc : Bytes) :
    kdfCodeLoop prf key (kdfTail ctx L) cnt i acc = acc ++ kdfBlocks prf key ctx L cnt i := by
  induction cnt generalizing i acc with
  | zero => simp [kdfCodeLoop, kdfBlocks]
  | succ n ih => simp [kdfCodeLoop, kdfBlocks, kdfMsg, ih, List.append_assoc]

theorem kdfBlocks_length (prf : Bytes → Bytes → Bytes) (hB : Nat) (hprf : ∀ k m, (prf k m).length = hB)
    (key ctx : Bytes) (L n s : Nat) : (kdfBlocks prf key ctx L n s).length = n * hB := by
  induction n generalizing s with
  | zero => simp [kdfBlocks]
  | succ n ih => simp [kdfBlocks, ih, hprf, Nat.succ_mul, Nat.add_comm]

theorem kdfBlocks_add (prf : Bytes → Bytes → Bytes) (key ctx : Bytes) (L n m s : Nat) :
    kdfBlocks prf key ctx L (n + m) s = kdfBlocks prf key ctx L n s ++ kdfBlocks prf key ctx L m (s + n) := by
  induction n generalizing s with
  | zero => simp [kdfBlocks]
  | succ n ih =>
    have : n + 1 + m = (n + m) + 1 := by omega
    rw [this]
    simp only [kdfBlocks, ih, List.append_assoc]
    have : s + 1 + n = s + (n + 1) := by omega
    rw [this]

/-- Extra rounds do not change the leftmost bytes once enough blocks are there. -/
theorem kdfBlocks_take (prf : Bytes → Bytes → Bytes) (hB : Nat) (hprf : ∀ k m, (prf k m).length = hB)
    (key ctx : Bytes) (L : Nat) {n n' k : Nat} (hn : n ≤ n') (hk : k ≤ n * hB) :
    (kdfBlocks prf key ctx L n' 0).take k = (kdfBlocks prf key ctx L n 0).take k := by
  obtain ⟨m, rfl⟩ : ∃ m, n' = n + m := ⟨n' - n, by omega⟩
  rw [kdfBlocks_add]
  apply List.take_append_of_le_length
  rw [kdfBlocks_length prf hB hprf]; exact hk

/-- `kdfBlocks` is the assembly of the PRF over the inputs of the specification (`kdfAssemble ∘ map (prf key) ∘ kdfInputs`),
with the start index generalised for the induction; for C14's `kdfSpec_eq_assemble_inputs`. -/
theorem kdfBlocks_eq_foldr (prf : Bytes → Bytes → Bytes) (key ctx : Bytes) (L n s : Nat) :
    kdfBlocks prf key ctx L n s =
      (((List.range n).map (fun i => kdfMsg (s + i + 1) ctx L)).map (prf key)).foldr (· ++ ·) [] := by
  induction n generalizing s with
  | zero => simp [kdfBlocks]
  | succ n ih =>
    rw [List.range_succ_eq_map]
    simp only [kdfBlocks, List.map_cons, List.foldr_cons, List.map_map, Nat.add_zero]
    rw [ih]
    congr 2
    simp only [List.map_map]
    apply List.map_congr_left
    intro i _
    simp only [Function.comp]
    have : s + 1 + i + 1 = s + (i + 1) + 1 := by omega
    rw [this]

/-- `kdfCode` with its loop replaced by the blocks it appends. -/
theorem kdfCode_eq (prf : Bytes → Bytes → Bytes) (hBytes L : Nat) (key ctx : Bytes) :
    kdfCode prf hBytes L key ctx =
      if hBytes ≠ 32 ∧ hBytes ≠ 48 then .panic "kdf:unsupported hash size"
      else if kdfCodeRounds hBytes L > 255 then .panic "kdf:n too large"
      else if L / 8 ≤ (kdfBlocks prf key ctx L (kdfCodeRounds hBytes L) 0).length then
        .ok ((kdfBlocks prf key ctx L (kdfCodeRounds hBytes L) 0).take (L / 8))
      else .panic "kdf:slice bounds" := by
  unfold kdfCode
  simp only [kdfCodeLoop_eq, List.nil_append]

theorem kdfCode_length {prf : Bytes → Bytes → Bytes} {hBytes L : Nat} {key ctx out : Bytes}
    (h : kdfCode prf hBytes L key ctx = .ok out) : out.length = L / 8 := by
  rw [kdfCode_eq] at h
  by_cases h1 : hBytes ≠ 32 ∧ hBytes ≠ 48
  · rw [if_pos h1] at h; cases h
  rw [if_neg h1] at h
  by_cases h2 : kdfCodeRounds hBytes L > 255
  · rw [if_pos h2] at h; cases h
  rw [if_neg h2] at h
  by_cases h3 : L / 8 ≤ (kdfBlocks prf key ctx L (kdfCodeRounds hBytes L) 0).length
  · rw [if_pos h3] at h; cases h
    rw [List.length_take]; exact Nat.min_eq_left h3
  · rw [if_neg h3] at h; cases h

/-- The code runs `⌈L/hBytes⌉` rounds where the standard asks for `⌈L/(8·hBytes)⌉`: never fewer, and,
for a supported hash and a length the code's guard admits, at most 255 — enough blocks for `L/8` bytes
already after the standard's count. -/
theorem kdfCodeRounds_bounds (hBytes L : Nat) (hh : hBytes = 32 ∨ hBytes = 48) (hL : L ≤ 255 * hBytes) :
    kdfSpecRounds (8 * hBytes) L ≤ kdfCodeRounds hBytes L ∧ kdfCodeRounds hBytes L ≤ 255 ∧
      L / 8 ≤ kdfSpecRounds (8 * hBytes) L * hBytes := by
  unfold kdfSpecRounds kdfCodeRounds
  rcases hh with rfl | rfl <;> split <;> omega

/-! ### PRF-message injectivity -/

/-- The tail of a PRF message determines the context and the two length bytes (`L` itself only below 65536: `kdfMsg_inj`). -/
theorem kdfTail_inj (c c' : Bytes) (L L' : Nat) (h : kdfTail c L = kdfTail c' L') :
    c = c' ∧ natBE 2 L = natBE 2 L' := by
  unfold kdfTail at h
  -- strip the label "FIDO-KDF", the 0x00 and "AutomaticOnboardTunnel"
  have h1 := List.append_cancel_left h
  have h2 := List.append_cancel_left h1
  have h3 := List.append_cancel_left h2
  exact List.append_inj' h3 (by simp)

theorem kdfMsg_inj (i j : Nat) (hi : i < 256) (hj : j < 256) (c c' : Bytes) (L L' : Nat)
    (hL : L < 65536) (hL' : L' < 65536) (h : kdfMsg i c L = kdfMsg j c' L') : i = j ∧ c = c' ∧ L = L' := by
  unfold kdfMsg at h
  injection h with h1 h2
  have ⟨hc, hl⟩ := kdfTail_inj c c' L L' h2
  refine ⟨?_, hc, ?_⟩
  · have := congrArg UInt8.toNat h1
    simp at this
    omega
  · exact natBE_inj (by simpa using hL) (by simpa using hL') hl

/-! ### big-endian encodings -/

theorem beNat_minBytes (n : Nat) : beNat (minBytes n) = n := by
  induction n using Nat.strongRecOn with
  | _ n ih =>
    unfold minBytes
    by_cases h : n = 0
    · simp [h, beNat]
    · simp only [h, dite_false]
      rw [beNat_append_singleton, ih (n / 256) (by omega)]
      rw [UInt8.toNat_ofNat_of_lt' (show n % 256 < 256 by omega)]; omega

theorem minBytes_length_pos (n : Nat) (h : n ≠ 0) : 0 < (minBytes n).length := by
  unfold minBytes
  simp [h]

theorem minBytes_zero : minBytes 0 = [] := by
  unfold minBytes; simp

theorem minBytes_lower (m : Nat) (hm : m ≠ 0) : 256 ^ ((minBytes m).length - 1) ≤ m := by
  induction m using Nat.strongRecOn with
  | _ m ih =>
    unfold minBytes
    simp only [hm, dite_false, List.length_append, List.length_cons, List.length_nil]
    by_cases hq : m / 256 = 0
    · rw [hq, minBytes_zero]; simp; omega
    · have := ih (m / 256) (by omega) hq
      have hp := minBytes_length_pos (m / 256) hq
      have e : (minBytes (m / 256)).length + 1 - 1 = ((minBytes (m / 256)).length - 1) + 1 := by omega
      rw [e]
      omega

/-- `big.Int.Bytes()` never starts with a zero byte. -/
theorem minBytes_no_leading_zero (n : Nat) (b : UInt8) (r : Bytes) (h : minBytes n = b :: r) : b ≠ 0 := by
  rintro rfl
  -- the value is below 256^(len-1), a minimal encoding of that length needs at least that
  have hlt : n < 256 ^ r.length := by
    rw [← beNat_minBytes n, h]; simpa [beNat] using beNat_lt r
  by_cases hn : n = 0
  · subst hn; rw [minBytes_zero] at h; cases h
  · have := minBytes_lower n hn
    rw [h] at this
    simp at this
    omega

/-! ### DH shared secret -/

theorem powMod_eq (b e m : Nat) : powMod b e m = b ^ e % m := by
  induction e using Nat.strongRecOn generalizing b with
  | _ e ih =>
    unfold powMod
    by_cases h : e = 0
    · simp [h]
    · simp only [h, dite_false]
      rw [ih (e / 2) (by omega) (b * b % m)]
      have hsq : (b * b % m) ^ (e / 2) % m = b ^ (2 * (e / 2)) % m := by
        rw [← Nat.pow_mod, Nat.pow_mul]; simp [Nat.pow_two]
      rw [hsq]
      by_cases hodd : e % 2 = 1
      · simp only [hodd, if_true]
        have he : e = 2 * (e / 2) + 1 := by omega
        conv => rhs; rw [he, Nat.pow_succ, Nat.mul_comm]
        rw [Nat.mul_mod, Nat.mod_mod, ← Nat.mul_mod]
      · simp only [hodd, if_false]
        have he : e = 2 * (e / 2) := by omega
        conv => rhs; rw [he]

theorem pow_comm_mod (g a b p : Nat) : (g ^ a % p) ^ b % p = (g ^ b % p) ^ a % p := by
  rw [← Nat.pow_mod, ← Nat.pow_mod, ← Nat.pow_mul, ← Nat.pow_mul, Nat.mul_comm]

theorem dhPeerValid_iff (p y : Nat) : dhPeerValid p y = true ↔ 2 ≤ y ∧ y + 2 ≤ p := by
  unfold dhPeerValid
  simp only [Bool.and_eq_true, decide_eq_true_eq]
  omega

theorem dhSecretValid_iff (p s : Nat) : dhSecretValid p s = true ↔ 2 ≤ s ∧ s + 1 ≠ p := by
  unfold dhSecretValid
  simp only [Bool.not_eq_true', Bool.or_eq_false_iff, decide_eq_false_iff_not]
  omega

theorem byteLen_bound (p s : Nat) (h : s < p) : s < 256 ^ byteLen p := by
  have := beNat_lt (minBytes p)
  rw [beNat_minBytes] at this
  unfold byteLen; omega

/-- `dhShared` in closed form: the two checks, then the fixed-width encoding — which always fits,
the shared value being below `p`, so `FillBytes` never panics. -/
theorem dhShared_eq (p peer own : Nat) :
    dhShared p peer own =
      if dhPeerValid p peer = true ∧ dhSecretValid p (peer ^ own % p) = true then
        .ok (natBE (byteLen p) (peer ^ own % p))
      else .reject := by
  unfold dhShared dhSharedNat
  rw [powMod_eq]
  by_cases hv : dhPeerValid p peer = true
  · by_cases hs : dhSecretValid p (peer ^ own % p) = true
    · have hp := (dhPeerValid_iff p peer).1 hv
      have hlt := byteLen_bound p (peer ^ own % p) (Nat.mod_lt _ (by omega))
      simp [hv, hs, fillBytes, hlt]
    · simp [hv, hs]
  · simp [hv]

theorem dhShared_ok {p peer own : Nat} {sh : Bytes} (h : dhShared p peer own = .ok sh) :
    (2 ≤ peer ∧ peer + 2 ≤ p) ∧ sh = natBE (byteLen p) (peer ^ own % p) ∧
      2 ≤ peer ^ own % p ∧ peer ^ own % p + 1 ≠ p := by
  rw [dhShared_eq] at h
  split at h
  · rename_i hc
    have hs := (dhSecretValid_iff p _).1 hc.2
    exact ⟨(dhPeerValid_iff p peer).1 hc.1, (Outcome.ok.inj h).symm, hs.1, hs.2⟩
  · cases h

/-- A zero secret never yields a key: `y^0 = 1` fails the check on the shared value. -/
theorem dhShared_zero (p peer : Nat) : dhShared p peer 0 = .reject := by
  rw [dhShared_eq, if_neg]
  intro hc
  have hp := (dhPeerValid_iff p peer).1 hc.1
  have hs := (dhSecretValid_iff p _).1 hc.2
  rw [Nat.pow_zero, Nat.mod_eq_of_lt (by omega)] at hs
  omega

/-! ### ecdhParam -/

theorem takeField_encField (f rest : Bytes) (hf : f.length < 65536) :
    takeField (encField f ++ rest) = some (f, rest) := by
  unfold takeField encField
  have h2 : ¬ (natBE 2 f.length ++ f ++ rest).length < 2 := by simp
  simp only [h2, if_false]
  have ht : (natBE 2 f.length ++ f ++ rest).take 2 = natBE 2 f.length := by
    rw [List.append_assoc]; exact List.take_left' (by simp)
  have hd : (natBE 2 f.length ++ f ++ rest).drop 2 = f ++ rest := by
    rw [List.append_assoc]; exact List.drop_left' (by simp)
  rw [ht, hd, beNat_natBE 2 _ (by simpa using hf)]
  have h3 : ¬ (f ++ rest).length < f.length := by simp
  simp only [h3, if_false]
  rw [List.take_left' rfl, List.drop_left' rfl]

theorem ecdhParamFields_enc (x y r t : Bytes) (hx : x.length < 65536) (hy : y.length < 65536)
    (hr : r.length < 65536) : ecdhParamFields (ecdhParamEncFields x y r ++ t) = some (x, y, r, t) := by
  unfold ecdhParamFields ecdhParamEncFields
  rw [List.append_assoc, takeField_encField x _ hx]
  simp only
  rw [List.append_assoc, takeField_encField y _ hy]
  simp only
  rw [takeField_encField r _ hr]

/-- A SEC 1 uncompressed point of coordinate width `n`. -/
def IsPoint (pub : Bytes) (n : Nat) : Prop := ∃ x y, pub = 4 :: (x ++ y) ∧ x.length = n ∧ y.length = n

theorem ecdhParamMarshal_point (pub rand : Bytes) (n : Nat) (hp : IsPoint pub n) (hn : n < 65536)
    (hr : rand.length < 65536) :
    ∃ x y, pub = 4 :: (x ++ y) ∧ x.length = n ∧ y.length = n ∧
      ecdhParamMarshal pub rand = .ok (ecdhParamEncFields x y rand) := by
  obtain ⟨x, y, rfl, hx, hy⟩ := hp
  refine ⟨x, y, rfl, hx, hy, ?_⟩
  have hpl : ((4 :: (x ++ y)).length - 1) / 2 = n := by
    rw [List.length_cons, List.length_append]; omega
  have e1 : ((4 :: (x ++ y)).drop 1).take n = x := List.take_left' hx
  have e2 : ((4 :: (x ++ y)).drop (1 + n)).take n = y := by
    rw [Nat.add_comm, List.drop_succ_cons, List.drop_left' hx, ← hy, List.take_length]
  have h1 : ¬ n > 65535 := by omega
  have h2 : ¬ rand.length > 65535 := by omega
  have h3 : ¬ (4 :: (x ++ y)).length = 0 := by simp
  unfold ecdhParamMarshal
  rw [hpl, if_neg h1, if_neg h2, if_neg h3, e1, e2]
  simp only [ecdhParamEncFields, encField, hx, hy, List.append_assoc]

theorem ecdhParamDecode_marshal (pub rand : Bytes) (n : Nat) (hp : IsPoint pub n) (hn : n < 65536)
    (hr : rand.length < 65536) :
    ∃ w, ecdhParamMarshal pub rand = .ok w ∧ ecdhParamDecode w = some (pub, rand) := by
  obtain ⟨x, y, hpub, hx, hy, hm⟩ := ecdhParamMarshal_point pub rand n hp hn hr
  refine ⟨_, hm, ?_⟩
  unfold ecdhParamDecode
  have := ecdhParamFields_enc x y rand [] (by omega) (by omega) hr
  rw [List.append_nil] at this
  rw [this]
  simp only [hx, hy, Nat.max_self]
  have ex := natBE_beNat x
  have ey := natBE_beNat y
  rw [hx] at ex; rw [hy] at ey
  rw [ex, ey, hpub]

/-- Where a party finds its own public key in the pair decides which of the two is the peer's (here: own
first; `ecdhSharedSecret_own_second`: own second); the randoms keep their places in `ecdhShSe` either way. -/
theorem ecdhSharedSecret_own_first (O : EcdhOracle) (k : Bytes) (pA pB : Bytes × Bytes)
    (hown : pA.1 = O.pubOf k) :
    ecdhSharedSecret O (some k) pA pB =
      if O.validPub pB.1 = true then .ok (ecdhShSe (O.ecdh k pB.1) pB.2 pA.2) else .reject := by
  unfold ecdhSharedSecret
  dsimp only
  rw [if_pos hown]
  cases h : O.validPub pB.1 <;> simp [h]

theorem ecdhSharedSecret_own_second (O : EcdhOracle) (k : Bytes) (pA pB : Bytes × Bytes)
    (hne : pA.1 ≠ O.pubOf k) (hown : pB.1 = O.pubOf k) :
    ecdhSharedSecret O (some k) pA pB =
      if O.validPub pA.1 = true then .ok (ecdhShSe (O.ecdh k pA.1) pB.2 pA.2) else .reject := by
  unfold ecdhSharedSecret
  dsimp only
  rw [if_neg hne, if_pos hown]
  cases h : O.validPub pA.1 <;> simp [h]

/-! ### integers in CBOR -/

theorem itemInt_intItem (z : Int) (h1 : -9223372036854775808 ≤ z) (h2 : z < 9223372036854775808) :
    itemInt (intItem z) = some z := by
  unfold intItem
  by_cases hz : z < 0
  · simp only [hz, if_true, itemInt]
    have : (-z - 1).toNat < 9223372036854775808 := by omega
    simp only [this, if_true]
    congr 1; omega
  · simp only [hz, if_false, itemInt]
    have : z.toNat < 9223372036854775808 := by omega
    simp only [this, if_true]
    congr 1; omega

/-! ### persist structs -/

/-- Session fields that `cbor.Marshal`/`Unmarshal` carry unchanged: ids fit an int64 and name a
registered suite. -/
def CrypterOk (c : Crypter) : Prop :=
  (∃ row, cipherRow c.cipher = some row) ∧ -9223372036854775808 ≤ c.cipher ∧ c.cipher < 9223372036854775808

/-- A DH session whose optional big integers are either nil or non-zero (a zero `*big.Int`
marshals to the empty string, which restores as nil). -/
def DhPersistable (s : DhSession) : Prop :=
  CrypterOk s.cr ∧ s.g < 9223372036854775808 ∧ s.paramSize < 9223372036854775808 ∧
    s.a ≠ some 0 ∧ s.xA ≠ some 0 ∧ s.b ≠ some 0 ∧ s.xB ≠ some 0

/-- What restoring yields in general: every zero optional comes back as nil. -/
def dhNormalize (s : DhSession) : DhSession :=
  let f := fun (o : Option Nat) => if o = some 0 then none else o
  { s with a := f s.a, xA := f s.xA, b := f s.b, xB := f s.xB }

theorem bigOpt_optBigBytes (o : Option Nat) :
    bigOpt (optBigBytes o) = if o = some 0 then none else o := by
  cases o with
  | none => simp [bigOpt, optBigBytes]
  | some n =>
    by_cases hn : n = 0
    · simp [hn, bigOpt, optBigBytes, minBytes_zero]
    · simp [hn, bigOpt, optBigBytes, minBytes_length_pos n hn, beNat_minBytes]

theorem dhRestore_persist_general (s : DhSession) (hc : CrypterOk s.cr) (hg : s.g < 9223372036854775808)
    (hps : s.paramSize < 9223372036854775808) : dhRestore (dhPersist s) = .ok (dhNormalize s) := by
  obtain ⟨⟨row, hrow⟩, hc1, hc2⟩ := hc
  unfold dhRestore dhPersist dhNormalize
  simp only [Items.ofList, Items.toList, itemBytes, itemNat, optBig, hg, hps, if_true,
    itemInt_intItem _ hc1 hc2, hrow, beNat_minBytes, bigOpt_optBigBytes]

theorem dhNormalize_of_persistable (s : DhSession) (h : DhPersistable s) : dhNormalize s = s := by
  obtain ⟨_, _, _, ha, hxa, hb, hxb⟩ := h
  simp only [dhNormalize, ha, hxa, hb, hxb, if_false]

/-- An ECDH session that survives the store: a key comes back only if `validPriv` accepts it, and a nil key, which is
persisted as the empty string, comes back as nil only if `validPriv` refuses the empty string. -/
def EcdhPersistable (validPriv : Nat → Bytes → Bool) (s : EcdhSession) : Prop :=
  CrypterOk s.cr ∧ (s.randSize = 16 ∨ s.randSize = 48) ∧ s.xA.isSome = true ∧
    (match s.priv with
     | none => validPriv s.randSize [] = false
     | some k => validPriv s.randSize k = true)

/-- An ASYMKEX session that survives the store: the size fits an int64 and `xA` is present (restoring returns `some` for
every byte-string field, also for an empty one). -/
def OaepPersistable (s : OaepSession) : Prop :=
  CrypterOk s.cr ∧ s.paramSize < 9223372036854775808 ∧ s.xA.isSome = true

/-! ### what a session step returned when it returned a value -/

theorem Outcome.bind_eq_ok {α β : Type} {o : Outcome α} {f : α → Outcome β} {b : β} (h : o.bind f = .ok b) :
    ∃ a, o = .ok a ∧ f a = .ok b := by
  cases o with
  | ok a => exact ⟨a, rfl, h⟩
  | reject | panic s => simp [Outcome.bind] at h

/-- Every step that derives keys looks the session's cipher suite up before it does, and panics when it is not registered.
Stated on the `match` expression itself, as it stands in each of these functions after unfolding, so that it applies to the
hypothesis unchanged (`f` is whatever the function does with the row). -/
theorem registered_ok {α : Type} {cipher : Int} {f : CipherRow → Outcome α} {s : α}
    (h : (match cipherRow cipher with
      | none => Outcome.panic "cipher suite not registered"
      | some c => f c) = .ok s) : ∃ c, cipherRow cipher = some c ∧ f c = .ok s := by
  cases hc : cipherRow cipher with
  | none => rw [hc] at h; cases h
  | some c => rw [hc] at h; exact ⟨c, rfl, h⟩

/-- The three constructors (`dhNew`, `ecdhNew`, `oaepNew`) share this shape: a registered cipher or a panic. -/
theorem newSession_ok {α : Type} {cipher : Int} {x s : α}
    (h : (match cipherRow cipher with
      | none => Outcome.panic "cipher suite not registered"
      | some _ => Outcome.ok x) = .ok s) : (∃ c, cipherRow cipher = some c) ∧ s = x :=
  let ⟨c, hc, e⟩ := registered_ok h
  ⟨⟨c, hc⟩, (Outcome.ok.inj e).symm⟩

/-- The owner's `Parameter` (no `xA` yet) keeps the secret and sends `g^a`. -/
theorem dhParameter_first {prf : Bytes → Bytes → Bytes} {s s' : DhSession} {r x : Bytes}
    (hx : s.xA = none) (h : dhParameter prf s r = .ok (s', x)) :
    s' = { s with a := some (beNat r) } ∧ x = minBytes (s.g ^ beNat r % s.p) := by
  cases s; subst hx
  simp only [dhParameter, Outcome.ok.injEq, Prod.mk.injEq, powMod_eq] at h
  exact ⟨h.1.symm, h.2.symm⟩

/-- The device's `Parameter` (it holds the owner's `xA`) derives the keys from `xA^b` and sends `g^b`. -/
theorem dhParameter_second {prf : Bytes → Bytes → Bytes} {s s' : DhSession} {r x : Bytes} {xA : Nat}
    (hx : s.xA = some xA) (h : dhParameter prf s r = .ok (s', x)) :
    ∃ c k, cipherRow s.cr.cipher = some c ∧ dhSymmetricKey prf c s.p xA (beNat r) = .ok k ∧
      s' = { s with b := none, xA := none, cr := { s.cr with sek := k.1, svk := k.2 } } ∧
      x = minBytes (s.g ^ beNat r % s.p) := by
  obtain ⟨_, _, _, _, _, _, _, cr⟩ := s; subst hx
  obtain ⟨c, hc, h⟩ := registered_ok h
  obtain ⟨k, hk, h⟩ := Outcome.bind_eq_ok h
  simp only [Outcome.ok.injEq, Prod.mk.injEq, powMod_eq] at h
  exact ⟨c, k, hc, hk, h.1.symm, h.2.symm⟩

/-- The owner's `SetParameter` (it still holds `a`) derives the keys from `xB^a`, and wipes `a` and `xB`. -/
theorem dhSetParameter_ok {prf : Bytes → Bytes → Bytes} {s s' : DhSession} {xB : Bytes}
    (h : dhSetParameter prf s xB = .ok s') :
    ∃ a c k, s.a = some a ∧ cipherRow s.cr.cipher = some c ∧
      dhSymmetricKey prf c s.p (beNat xB) a = .ok k ∧
      s' = { s with a := none, xB := none, cr := { s.cr with sek := k.1, svk := k.2 } } := by
  unfold dhSetParameter at h
  cases ha : s.a with
  | none => simp [ha] at h
  | some a =>
    simp only [ha] at h
    obtain ⟨c, hc, h⟩ := registered_ok h
    obtain ⟨k, hk, h⟩ := Outcome.bind_eq_ok h
    exact ⟨a, c, k, rfl, hc, hk, (Outcome.ok.inj h).symm⟩

/-- The owner's `Parameter` keeps the key and its own marshalled parameter. -/
theorem ecdhParameter_first {prf : Bytes → Bytes → Bytes} {O : EcdhOracle} {s s' : EcdhSession}
    {k r x : Bytes} (hx : s.xA = none) (h : ecdhParameter prf O s k r = .ok (s', x)) :
    (s.randSize = 16 ∨ s.randSize = 48) ∧ ecdhParamMarshal (O.pubOf k) r = .ok x ∧
      s' = { s with priv := some k, xA := some x } := by
  cases s; subst hx
  unfold ecdhParameter at h
  split at h
  · cases h
  · rename_i hrs
    obtain ⟨w, hw, h⟩ := Outcome.bind_eq_ok h
    simp only [Outcome.ok.injEq, Prod.mk.injEq] at h
    obtain ⟨rfl, rfl⟩ := h
    exact ⟨by simp only at hrs ⊢; omega, hw, rfl⟩

/-- The device's `Parameter` derives the keys from the owner's `xA` and its own parameter. -/
theorem ecdhParameter_second {prf : Bytes → Bytes → Bytes} {O : EcdhOracle} {s s' : EcdhSession}
    {k r x xA : Bytes} (hx : s.xA = some xA) (h : ecdhParameter prf O s k r = .ok (s', x)) :
    ∃ c key, ecdhParamMarshal (O.pubOf k) r = .ok x ∧ cipherRow s.cr.cipher = some c ∧
      ecdhSymmetricKey prf O c (some k) xA x = .ok key ∧
      s' = { s with priv := none, xA := some (zeros xA.length), xB := zeros x.length,
                    cr := { s.cr with sek := key.1, svk := key.2 } } := by
  obtain ⟨_, _, _, _, cr⟩ := s; subst hx
  unfold ecdhParameter at h
  split at h
  · cases h
  · obtain ⟨w, hw, h⟩ := Outcome.bind_eq_ok h
    obtain ⟨c, hc, h⟩ := registered_ok h
    obtain ⟨key, hkey, h⟩ := Outcome.bind_eq_ok h
    simp only [Outcome.ok.injEq, Prod.mk.injEq] at h
    obtain ⟨rfl, rfl⟩ := h
    exact ⟨c, key, hw, hc, hkey, rfl⟩

/-- The owner's `SetParameter` derives the keys from its key, its own parameter and the device's, wipes the key and
overwrites both parameters with zeros. -/
theorem ecdhSetParameter_ok {prf : Bytes → Bytes → Bytes} {O : EcdhOracle} {s s' : EcdhSession} {xB : Bytes}
    (h : ecdhSetParameter prf O s xB = .ok s') :
    ∃ k c key, s.priv = some k ∧ cipherRow s.cr.cipher = some c ∧
      ecdhSymmetricKey prf O c (some k) (s.xA.getD []) xB = .ok key ∧
      s' = { s with priv := none, xA := s.xA.map (fun a => zeros a.length), xB := zeros xB.length,
                    cr := { s.cr with sek := key.1, svk := key.2 } } := by
  unfold ecdhSetParameter at h
  cases hk : s.priv with
  | none => simp [hk] at h
  | some k =>
    simp only [hk] at h
    obtain ⟨c, hc, h⟩ := registered_ok h
    obtain ⟨key, hkey, h⟩ := Outcome.bind_eq_ok h
    exact ⟨k, c, key, rfl, hc, hkey, (Outcome.ok.inj h).symm⟩

/-- The owner's `Parameter` keeps and sends its random. -/
theorem oaepParameter_first {prf : Bytes → Bytes → Bytes} {enc : Bytes → Option Bytes} {s s' : OaepSession}
    {r x : Bytes} (hx : s.xA = none) (h : oaepParameter prf enc s r = .ok (s', x)) :
    s' = { s with xA := some r } ∧ x = r := by
  cases s; subst hx
  simp only [oaepParameter, Outcome.ok.injEq, Prod.mk.injEq] at h
  exact ⟨h.1.symm, h.2.symm⟩

/-- The device's `Parameter` derives the keys from its own random and the owner's, and sends its random
encrypted. -/
theorem oaepParameter_second {prf : Bytes → Bytes → Bytes} {enc : Bytes → Option Bytes} {s s' : OaepSession}
    {r x xA : Bytes} (hx : s.xA = some xA) (h : oaepParameter prf enc s r = .ok (s', x)) :
    ∃ c key, cipherRow s.cr.cipher = some c ∧ oaepSymmetricKey prf c r xA = .ok key ∧ enc r = some x ∧
      s' = { s with xA := some (zeros xA.length), xB := zeros r.length,
                    cr := { s.cr with sek := key.1, svk := key.2 } } := by
  obtain ⟨_, _, _, cr⟩ := s; subst hx
  obtain ⟨c, hc, h⟩ := registered_ok h
  obtain ⟨key, hkey, h⟩ := Outcome.bind_eq_ok h
  cases he : enc r with
  | none => simp [he] at h
  | some ct =>
    simp only [he, Outcome.ok.injEq, Prod.mk.injEq] at h
    obtain ⟨rfl, rfl⟩ := h
    exact ⟨c, key, hc, hkey, rfl, rfl⟩

/-- The owner's `SetParameter` derives the keys from the decrypted device random and its own, and overwrites both with
zeros; `dec` is the result of the RSA-OAEP decryption. -/
theorem oaepSetParameter_ok {prf : Bytes → Bytes → Bytes} {s s' : OaepSession} {dec : Option Bytes}
    (h : oaepSetParameter prf s dec = .ok s') :
    ∃ xB c key, dec = some xB ∧ cipherRow s.cr.cipher = some c ∧
      oaepSymmetricKey prf c xB (s.xA.getD []) = .ok key ∧
      s' = { s with xA := s.xA.map (fun a => zeros a.length), xB := zeros xB.length,
                    cr := { s.cr with sek := key.1, svk := key.2 } } := by
  unfold oaepSetParameter at h
  cases dec with
  | none => cases h
  | some xB =>
    obtain ⟨c, hc, h⟩ := registered_ok h
    obtain ⟨key, hkey, h⟩ := Outcome.bind_eq_ok h
    exact ⟨xB, c, key, rfl, hc, hkey, (Outcome.ok.inj h).symm⟩

end Fdo.Kex
