import Fdo.Kex.Wire
import Fdo.Cose.Sign1Proofs
import Fdo.Prim.Proofs
import Fdo.Cbor.TypedHead
/-
Round trip of the tunnel: what `encryptVal` builds, `decryptVal` opens to the same plaintext, for any
primitives that are functionally correct; and what either function did when it returned a value
(`encryptVal_some`, `decryptVal_ok`, `decryptEnc0_some`). At the end `tunnelSchema_facts`, the one fact about
Kex/Wire.lean that C05's `wire_round_trip` needs.
-/
namespace Fdo.Kex
open Fdo Fdo.Cbor Fdo.Cose

/-- Functional correctness of the symmetric primitives (nothing about their strength). -/
structure PrimsCorrect (P : Prims) : Prop where
  aead : ∀ k n a p c, P.aeadSeal k n a p = some c → P.aeadOpen k n a c = some p
  ctr : ∀ k iv p c, P.ctr k iv p = some c → P.ctr k iv c = some p
  cbc : ∀ k iv p c, P.cbcEnc k iv p = some c → P.cbcDec k iv c = some p ∧ c.length = p.length

theorem unpad16_pad (b : Bytes) : unpad16 (Fdo.Prim.pad b 16) = some b := by
  obtain ⟨hlast, hk⟩ := Fdo.Prim.pad_getLast? b 16 (by decide) (by decide)
  have hn1 : 1 ≤ Fdo.Prim.padSize b.length 16 := Fdo.Prim.padSize_pos (by decide)
  have hn2 := Fdo.Prim.padSize_le b.length 16
  unfold unpad16
  rw [hlast]
  simp only [hk, Fdo.Prim.pad_length]
  rw [if_neg (by omega), Nat.add_sub_cancel]
  simp [Fdo.Prim.pad]

/-- a byte string below the decode limit put into a header is read back by `HeaderMap.Parse(label, &[]byte)` -/
theorem unmarshal_bytes (iv : Bytes) (h : iv.length < maxLen) :
    unmarshalS (fun _ => true) .bytes (encodeAny (.bytes iv)) = some (.bytes iv) := by
  have := decodeS_bytes (fun _ => true) [] (2 * (encHead 2 iv.length ++ iv).length + 63) maxDepth h
  simp only [List.append_nil] at this
  -- `unmarshalS` runs `decodeS` with fuel `2·len + 64`; `decodeS_bytes` speaks of fuel `f + 1`
  simp only [unmarshalS, encodeAny, show ∀ n, 2 * n + 64 = 2 * n + 63 + 1 from fun _ => rfl, this]

theorem hdrBytes_of_hdrGet {m : List (Val × AnyVal)} {l : Int} {b : Bytes}
    (hg : hdrGet m l = some (.bytes b)) (h : b.length < maxLen) : hdrBytes m l = some b := by
  unfold hdrBytes; rw [hg]; simp only; rw [unmarshal_bytes b h]

theorem cipherOpen_cipherSeal (P : Prims) (hP : PrimsCorrect P) (s : Suite) (sek iv : Bytes)
    (prot : List (Val × AnyVal)) (p c : Bytes) (hiv : iv.length = ivLen s)
    (h : cipherSeal P s sek iv prot p = some c) : cipherOpen P s sek iv prot c = some p := by
  unfold cipherSeal at h
  unfold cipherOpen
  cases hk : s.kind with
  | aead =>
    have hl : iv.length = 12 := by rw [hiv, ivLen, hk, if_pos rfl]
    rw [hk] at h
    dsimp only at h ⊢
    rw [if_neg (fun hn => hn hl)] at h ⊢
    exact hP.aead _ _ _ _ _ h
  | ctr =>
    have hl : iv.length = 16 := by rw [hiv, ivLen, hk, if_neg nofun]
    rw [hk] at h
    dsimp only at h ⊢
    rw [if_neg (fun hn => hn hl)] at h ⊢
    exact hP.ctr _ _ _ _ h
  | cbc =>
    have hl : iv.length = 16 := by rw [hiv, ivLen, hk, if_neg nofun]
    rw [hk] at h
    dsimp only at h ⊢
    rw [if_neg (fun hn => hn hl)] at h
    -- the ciphertext has the length of the padded plaintext, a positive multiple of 16
    obtain ⟨hopen, hlen⟩ := hP.cbc _ _ _ _ h
    have hmod := Fdo.Prim.pad_length_mod p 16 (by decide)
    have hgt := Fdo.Prim.pad_length_gt p 16 (by decide)
    rw [← hlen] at hmod hgt
    have hc0 : c.isEmpty = false := by cases c with | nil => simp at hgt | cons => rfl
    rw [if_neg (by simp [hl, hc0, hmod]), hopen]
    exact unpad16_pad p

/-- What `encryptEnc0` writes into the two header maps is what `decryptEnc0` looks for.  `prot` and
`unprot` repeat the two `let`s of `encryptEnc0` word for word: that is what lets the lemma apply there. -/
theorem enc0_headers (s : Suite) (iv : Bytes) (hiv : iv.length < maxLen) :
    let prot : List (Val × AnyVal) := if s.kind = .aead then [(.int 1, .int s.encAlg)] else []
    let unprot : List (Val × AnyVal) :=
      if s.kind = .aead then [(.int 5, .bytes iv)] else [(.int 1, .int s.encAlg), (.int 5, .bytes iv)]
    algHeader s prot unprot = some s.encAlg ∧ hdrBytes unprot 5 = some iv := by
  by_cases hk : s.kind = .aead
  · simp only [hk, if_true, algHeader, hdrInt, hdrGet_one, true_and]
    exact hdrBytes_of_hdrGet (hdrGet_one _ _ 5) hiv
  · simp only [hk, if_false, algHeader, hdrInt, hdrGet_one, true_and]
    exact hdrBytes_of_hdrGet ((hdrGet_skip 1 5 _ _ (by decide)).trans (hdrGet_one _ _ 5)) hiv

theorem decryptEnc0_encryptEnc0 (P : Prims) (hP : PrimsCorrect P) (s : Suite) (sek iv p : Bytes) (e0 : Val)
    (hp : ∃ x, unmarshalRaw p = some x) (hiv : iv.length = ivLen s)
    (h : encryptEnc0 P s sek iv p = some e0) : decryptEnc0 P s sek e0 = some p ∧ ivOfEnc0 e0 = some iv := by
  obtain ⟨x, hx⟩ := hp
  have hivlt : iv.length < maxLen := by rw [hiv]; unfold ivLen maxLen; split <;> omega
  obtain ⟨halg, hget⟩ := enc0_headers s iv hivlt
  unfold encryptEnc0 at h
  split at h
  · cases h
  · rename_i hk
    simp only [Option.bind_eq_some_iff, Option.some.injEq] at h
    obtain ⟨c, hc, rfl⟩ := h
    refine ⟨?_, hget⟩
    simp only [decryptEnc0]
    rw [if_neg (by simp [halg, Decidable.of_not_not hk])]
    simp only [hget, Option.bind_some, cipherOpen_cipherSeal P hP s sek iv _ p c hiv hc, hx]

theorem decryptEnc0_some {P : Prims} {s : Suite} {sek : Bytes} {e0 : Val} {p : Bytes}
    (h : decryptEnc0 P s sek e0 = some p) :
    ∃ prot unprot c iv, e0 = .strct [.hdr prot unprot, .ref (.bytes c)] ∧
      algHeader s prot unprot = some s.encAlg ∧ sek.length = s.encKeyBytes ∧
      hdrBytes unprot 5 = some iv ∧ cipherOpen P s sek iv prot c = some p ∧
      ∃ x, unmarshalRaw p = some x := by
  unfold decryptEnc0 at h
  split at h
  · rename_i prot unprot c
    simp only [Option.ite_none_left_eq_some, Option.bind_eq_some_iff, Option.some.injEq, not_or,
      Decidable.not_not] at h
    obtain ⟨⟨ha, hk⟩, iv, hiv, q, hq, x, hx, rfl⟩ := h
    exact ⟨prot, unprot, c, iv, rfl, ha, hk, hiv, hq, x, hx⟩
  · cases h

theorem vmapSet_same (m : Int) :
    vmapSet [((.int 1 : Val), (AnyVal.int m))] (.int 1) (.int m) = [(.int 1, .int m)] :=
  rfl

theorem encryptVal_some {P : Prims} {s : Suite} {sek svk : Bytes} {enc0S : Schema} {rnd p : Bytes}
    {t : Nat} {inner : Val} {rest : Bytes}
    (h : encryptVal P s sek svk enc0S rnd p = some (t, inner, rest)) :
    ivLen s ≤ rnd.length ∧ rest = rnd.drop (ivLen s) ∧
    ∃ e0, encryptEnc0 P s sek (rnd.take (ivLen s)) p = some e0 ∧
      ((s.macAlg = 0 ∧ t = 16 ∧ inner = e0) ∨
       (s.macAlg ≠ 0 ∧ t = 17 ∧ svk.length = s.macKeyBytes ∧ ∃ e0b m, marshalS enc0S e0 = some e0b ∧
          P.mac s.macAlg svk (toBeSigned ctxMac0 (encProtected [(.int 1, .int s.macAlg)]) [] e0b) = some m ∧
          inner = .strct [.hdr [(.int 1, .int s.macAlg)] [], .ref e0, .bytes m])) := by
  unfold encryptVal at h
  simp only [Option.ite_none_left_eq_some, Option.bind_eq_some_iff, Nat.not_lt] at h
  obtain ⟨hr, e0, he0, h⟩ := h
  refine ⟨hr, ?_⟩
  by_cases hm : s.macAlg = 0
  · rw [if_pos hm] at h
    cases h
    exact ⟨rfl, _, he0, .inl ⟨hm, rfl, rfl⟩⟩
  rw [if_neg hm] at h
  simp only [Option.ite_none_left_eq_some, Option.bind_eq_some_iff, Option.some.injEq, Prod.mk.injEq,
    Decidable.not_not] at h
  obtain ⟨hsvk, e0b, hmar, m, hmac, rfl, rfl, rfl⟩ := h
  exact ⟨rfl, e0, he0, .inr ⟨hm, rfl, hsvk, e0b, m, hmar, hmac, rfl⟩⟩

theorem decryptVal_ok {P : Prims} {s : Suite} {sek svk : Bytes} {enc0S : Schema} {t : Nat} {inner : Val}
    {p : Bytes} (h : decryptVal P s sek svk enc0S t inner = .ok p) :
    (t = 16 ∧ s.macAlg = 0 ∧ decryptEnc0 P s sek inner = some p) ∨
    (t = 17 ∧ s.macAlg ≠ 0 ∧ ∃ prot unprot e0 tag e0b,
      inner = .strct [.hdr prot unprot, .ref e0, .bytes tag] ∧ marshalS enc0S e0 = some e0b ∧
      P.mac s.macAlg svk (toBeSigned ctxMac0 (encProtected (vmapSet prot (.int 1) (.int s.macAlg))) [] e0b) = some tag ∧
      decryptEnc0 P s sek e0 = some p) := by
  revert h
  -- `cases h` closes every end of `decryptVal` that is not `.ok` and leaves two: tag 16, and tag 17 at the bottom of its
  -- branch (there the two `_` after `he` are the length check of `svk` and the `let prot'`)
  fun_cases decryptVal P s sek svk enc0S t inner <;> intro h <;> cases h
  next h16 hs hd => exact .inl ⟨h16, Decidable.of_not_not hs, hd⟩
  next _ h17 hs prot unprot tag e0 e0b he _ _ m hm hmt hd =>
    exact .inr ⟨h17, hs, prot, unprot, e0, tag, e0b, rfl, he, hm.trans (congrArg some (Decidable.of_not_not hmt)), hd⟩

/-- **Round trip of the tunnel** (decoded form): whatever `SessionCrypter.Encrypt` builds for a marshalled
message, `SessionCrypter.Decrypt` with the same suite and keys opens to exactly that message.  (The last three conjuncts
say where the IV came from and what is left of the randomness: for C05's `fresh_iv`.) -/
theorem decryptVal_encryptVal (P : Prims) (hP : PrimsCorrect P) (s : Suite) (sek svk : Bytes) (enc0S : Schema)
    (rnd p : Bytes) (t : Nat) (inner : Val) (rest : Bytes)
    (hp : ∃ x, unmarshalRaw p = some x)
    (h : encryptVal P s sek svk enc0S rnd p = some (t, inner, rest)) :
    decryptVal P s sek svk enc0S t inner = .ok p ∧ ivOfSent t inner = some (rnd.take (ivLen s)) ∧
      rest = rnd.drop (ivLen s) ∧ ivLen s ≤ rnd.length := by
  obtain ⟨hlen, hrest, e0, he0, hform⟩ := encryptVal_some h
  have hivl : (rnd.take (ivLen s)).length = ivLen s := by rw [List.length_take]; omega
  obtain ⟨hdec, hiv⟩ := decryptEnc0_encryptEnc0 P hP s sek _ p e0 hp hivl he0
  unfold decryptVal
  rcases hform with ⟨hm, rfl, rfl⟩ | ⟨hm, rfl, hsvk, e0b, m, hmar, hmac, rfl⟩
  · rw [if_pos rfl, if_neg (fun hn => hn hm), hdec]
    exact ⟨rfl, by unfold ivOfSent; rw [if_pos rfl]; exact hiv, hrest, hlen⟩
  · rw [if_neg (by decide), if_pos rfl, if_neg hm]
    dsimp only
    rw [hmar]
    dsimp only
    -- the receiver sets the algorithm header again before it recomputes the MAC: that leaves the sender's header as it is
    rw [if_neg (fun hn => hn hsvk), vmapSet_same, hmac]
    dsimp only
    rw [if_neg (fun hn => hn rfl), hdec]
    exact ⟨rfl, by unfold ivOfSent; rw [if_neg (by decide)]; exact hiv, hrest, hlen⟩

/-- The two schemas the tunnel is unmarshalled by are inside the fragment of the typed round trip.
`63`: `unmarshalS` runs with fuel `2·len + 64` and the round trip needs `2·len + 1 + ptrDepth`. -/
theorem tunnelSchema_facts (t : Nat) (sch : Schema) (h : tunnelSchema t = some sch) :
    (t = 16 ∨ t = 17) ∧ sch.inFragment = true ∧ sch.ptrDepth ≤ 63 := by
  unfold tunnelSchema at h
  by_cases h16 : t = 16
  · rw [if_pos h16] at h; cases h
    exact ⟨.inl h16, by decide +kernel, by decide +kernel⟩
  rw [if_neg h16] at h
  by_cases h17 : t = 17
  · rw [if_pos h17] at h; cases h
    exact ⟨.inr h17, by decide +kernel, by decide +kernel⟩
  · rw [if_neg h17] at h; cases h

end Fdo.Kex
