import Fdo.StoreProofs
import Fdo.Cbor.TypedProofs
import Fdo.Gen.Schemas
/-
C18 — SQLite server state is a faithful, session-isolated store across restarts.

Model: Fdo/Store.lean (the abstract specification the sqlite backend is checked against by the
harness, op by op, on random histories with the database closed and reopened at random points);
helper lemmas: Fdo/StoreProofs.lean.

All theorems are over ARBITRARY histories (lists of operations of any length, any interleaving of
any number of sessions), any starting store `s`, and any MAC check `mac : Raw → Auth`.

Theorems about `Variant.repaired` describe the code after
  fix: sqlite: reject tokens shorter than a session ID instead of panicking
  fix: sqlite: setting a DI session value again replaces the stored value
  fix: sqlite: ReplaceVoucher rejects a replacement with the GUID it replaces
`Variant.original` is the tree as found; the `…_original` theorems at the end are concrete
histories on which it breaks the property (the harness shows the same on the unrepaired library).
`isolation`, `reopen_transparent` and `persistent_independent_of_sessions` hold for both.

Time: `getRVBlob g now` compares like the code, `time.Now().After(time.Unix(exp, 0))`: a blob is
gone once `now` is strictly after the stored expiry; `now` and `exp` are in the same unit.

Modelled, not verified (DESIGN §3): SQLite, the WASM driver, file-system durability (the harness
exercises Close/Open and fresh objects, not power loss), the strength of the HMAC (that a peer
cannot produce a string with `mac r = .valid t` for a `t` it was not given).
-/
namespace Fdo.Props.C18
open Fdo Fdo.Store

variable {Raw : Type}

/-! ### read your write -/

/-- The one-step core of `read_your_write`: whatever the store, a `Set` that returned `ok`
followed by operations that leave the field alone is what `Get` returns. -/
theorem read_accepted_write (mac : Raw → Auth) (s : Store) (h₂ : List (Op Raw))
    (t : Token) (f : Field) (v : Bytes) (r r' : Raw)
    (hr : mac r = .valid t) (hr' : mac r' = .valid t)
    (hok : (step .repaired mac s (.set r f v)).2 = .ok)
    (hquiet : ∀ op ∈ h₂, op.quiet mac t f) :
    after .repaired mac s (.set r f v :: h₂) (.get r' f) = .value v := by
  obtain ⟨pf, hpf⟩ := Option.isSome_iff_exists.mp ((step_set_ok_iff mac s r t f v hr).mp hok)
  unfold after
  rw [step_get .repaired mac hr', exec, quiet_exec_field mac t f _ h₂ hquiet,
    step_set_field mac s r t f v hr, hpf]
  rfl

/-- READ YOUR WRITE, generic in the field `f`.  In any history of the shape

    h₀ ++ [NewToken t] ++ hm ++ [Set_f(r, v)] ++ h₂        (r authenticates t)

where `hm` neither re-issues nor invalidates `t` and `h₂` neither re-issues nor invalidates `t`
nor sets `f` of `t` again (everything else — other sessions, other fields of `t`, invalid tokens,
persistent operations, reopen — is allowed anywhere), the `Set` returned `ok` and a following
`Get_f` with any token string that authenticates `t` returns exactly `v`. -/
theorem read_your_write (mac : Raw → Auth) (s : Store) (h₀ hm h₂ : List (Op Raw))
    (t : Token) (p : Protocol) (f : Field) (v : Bytes) (r r' : Raw)
    (hr : mac r = .valid t) (hr' : mac r' = .valid t)
    (hkeep : ∀ op ∈ hm, op.keeps mac t)
    (hquiet : ∀ op ∈ h₂, op.quiet mac t f) :
    after .repaired mac s (h₀ ++ [.newToken t p] ++ hm) (.set r f v) = .ok ∧
    after .repaired mac s (h₀ ++ [.newToken t p] ++ hm ++ [.set r f v] ++ h₂) (.get r' f) = .value v := by
  -- the session is live when the Set arrives
  have hlive : ((exec .repaired mac s (h₀ ++ [.newToken t p] ++ hm)).tokens t).isSome = true := by
    rw [exec_append, keeps_exec_live mac t _ hm hkeep, exec_snoc, step_tokens]
    simp
  have hok := (step_set_ok_iff mac _ r t f v hr).mpr hlive
  refine ⟨hok, ?_⟩
  have := read_accepted_write mac _ h₂ t f v r r' hr hr' hok hquiet
  unfold after at this ⊢
  rw [List.append_assoc, exec_append]
  exact this

/-- … else `notFound`: a field never set since `NewToken t` reads as `notFound`. -/
theorem read_never_set (mac : Raw → Auth) (s : Store) (h₀ h₂ : List (Op Raw))
    (t : Token) (p : Protocol) (f : Field) (r' : Raw) (hr' : mac r' = .valid t)
    (hquiet : ∀ op ∈ h₂, op.quiet mac t f) :
    after .repaired mac s (h₀ ++ [.newToken t p] ++ h₂) (.get r' f) = .notFound := by
  unfold after
  rw [step_get .repaired mac hr', exec_append, quiet_exec_field mac t f _ h₂ hquiet, exec_snoc,
    Store.field, step_tokens]
  simp [found]

/-- A read never invents a value: whatever `Get_f` returns is `notFound`, `invalidSession`, or a
value — and it is `invalidSession` exactly when the MAC check rejects the token string. -/
theorem read_result_shape (mac : Raw → Auth) (s : Store) (r : Raw) (f : Field) :
    (mac r = .invalid ∨ mac r = .short) ∧ (step .repaired mac s (.get r f)).2 = .invalidSession ∨
    (∃ t, mac r = .valid t) ∧ ((step .repaired mac s (.get r f)).2 = .notFound ∨
      ∃ v, (step .repaired mac s (.get r f)).2 = .value v) := by
  cases ha : mac r with
  | invalid => left; simp [step, withSession, ha]
  | short => left; simp [step, withSession, ha]
  | valid t =>
    refine .inr ⟨⟨t, rfl⟩, ?_⟩
    rw [step_get .repaired mac ha]
    cases s.field t f with
    | none => exact .inl rfl
    | some x =>
      cases x with
      | none => exact .inl rfl
      | some v => exact .inr ⟨v, rfl⟩

/-! ### isolation -/

/-- ISOLATION.  Delete from a history every session operation that does not address session `t`
(NewToken of another identifier; Invalidate/Set/Get with a token string that authenticates
another session or none): every remaining operation — all operations of `t` and all persistent
operations — returns exactly what it returned in the full history.  So no interleaving of other
sessions changes any result for `t`.  Holds for the tree as found too. -/
theorem isolation (V : Variant) (mac : Raw → Auth) (s : Store) (t : Token) (h : List (Op Raw)) :
    (trace V mac s h).filter (fun p => !p.1.foreignTo mac t) =
      trace V mac s (h.filter (fun op => !op.foreignTo mac t)) :=
  (isolation_sim V mac t h s).1

/-- The same for one more operation of `t` (or a persistent one) issued after the history. -/
theorem isolation_next (V : Variant) (mac : Raw → Auth) (s : Store) (t : Token) (h : List (Op Raw))
    (op : Op Raw) (hop : op.foreignTo mac t = false) :
    after V mac s h op = after V mac s (h.filter (fun op => !op.foreignTo mac t)) op :=
  (own_congr V mac t _ _ op hop (isolation_sim V mac t h s).2).1

/-- One step: an operation on another session leaves `t`'s fields and everything persistent
untouched. -/
theorem isolation_step (V : Variant) (mac : Raw → Auth) (s : Store) (t : Token) (op : Op Raw)
    (hop : op.foreignTo mac t = true) :
    (step V mac s op).1.tokens t = s.tokens t ∧ (step V mac s op).1.vouchers = s.vouchers ∧
    (step V mac s op).1.rvBlobs = s.rvBlobs :=
  let h := foreign_frame V mac t s op hop
  ⟨h.tok t rfl, h.vou, h.rvb⟩

/-! ### tokens that grant nothing -/

/-- A token string the MAC check rejects (damaged, truncated, from another database, not
base64, shorter than a session ID, absent): every accessor answers `invalidSession`,
InvalidateToken answers `notFound`, and the store does not change. -/
theorem unissued_or_invalid_token_grants_nothing (mac : Raw → Auth) (s : Store) (r : Raw)
    (hr : ∀ t, mac r ≠ .valid t) (op : Op Raw) (hop : op.raw = some r) :
    (step .repaired mac s op).1 = s ∧ (step .repaired mac s op).2.grantsNothing := by
  have hm : mac r = .invalid ∨ mac r = .short := by
    cases ha : mac r with
    | valid t => exact absurd ha (hr t)
    | invalid => exact Or.inl rfl
    | short => exact Or.inr rfl
  rcases Op.raw_eq_some hop with rfl | ⟨f, v, rfl⟩ | ⟨f, rfl⟩ | rfl <;>
    rcases hm with hm | hm <;> simp [step, withSession, hm, Result.grantsNothing]

/-- A token string whose MAC verifies but whose session does not exist (never issued by this
store, or invalidated): reads answer `notFound`, writes answer `error`, and nothing —
InvalidateToken and SetDeviceSelfInfo included — changes the store. -/
theorem dead_session_grants_nothing (mac : Raw → Auth) (s : Store) (r : Raw) (t : Token)
    (hr : mac r = .valid t) (hd : s.tokens t = none) (op : Op Raw) (hop : op.raw = some r) :
    (step .repaired mac s op).1 = s ∧
    (∀ f, op = .get r f → (step .repaired mac s op).2 = .notFound) ∧
    (∀ f v, op = .set r f v → (step .repaired mac s op).2 = .error) ∧
    (∀ v, (step .repaired mac s op).2 ≠ .value v) := by
  rcases Op.raw_eq_some hop with rfl | ⟨f, v, rfl⟩ | ⟨f, rfl⟩ | rfl
  · refine ⟨?_, by simp, by simp, by simp [step, withSession, hr]⟩
    simp only [step, withSession, hr]
    exact store_eta s _ (upd_eq_self s.tokens t none hd)
  · simp [step, withSession, hr, setField, hd]
  · simp [step, withSession, hr, getField, hd]
  · simp [step, withSession, hr]

/-- After `InvalidateToken`, and until the store draws the same identifier again, the session
does not exist — whatever else happens in between, reopen included. -/
theorem invalidated_stays_dead (mac : Raw → Auth) (s : Store) (h₁ h₂ : List (Op Raw)) (r : Raw)
    (t : Token) (hr : mac r = .valid t) (hn : ∀ op ∈ h₂, op.noIssue t) :
    (exec .repaired mac s (h₁ ++ [.invalidate r] ++ h₂)).tokens t = none := by
  rw [exec_append]
  apply noIssue_exec_dead mac t _ h₂ hn
  rw [exec_snoc]
  simp [step, withSession, hr]

/-- A session identifier the store never drew does not exist. -/
theorem never_issued_is_dead (mac : Raw → Auth) (h : List (Op Raw)) (t : Token)
    (hn : ∀ op ∈ h, op.noIssue t) : (exec .repaired mac Store.empty h).tokens t = none :=
  noIssue_exec_dead mac t _ h hn rfl

/-- Put together: once invalidated, a token reads `notFound` for every field, in every later
history that does not draw the identifier again. -/
theorem invalidated_token_reads_nothing (mac : Raw → Auth) (s : Store) (h₁ h₂ : List (Op Raw))
    (r r' : Raw) (t : Token) (f : Field) (hr : mac r = .valid t) (hr' : mac r' = .valid t)
    (hn : ∀ op ∈ h₂, op.noIssue t) :
    after .repaired mac s (h₁ ++ [.invalidate r] ++ h₂) (.get r' f) = .notFound :=
  (dead_session_grants_nothing mac _ r' t hr' (invalidated_stays_dead mac s h₁ h₂ r t hr hn)
    (.get r' f) rfl).2.1 f rfl

/-! ### rendezvous blob expiry -/

/-- EXPIRY.  After `SetRVBlob g … exp` and any later history that does not register `g` again,
`RVBlob g` at a time after `exp` is `notFound`, and at any time up to `exp` it is exactly the
blob and voucher that were stored. -/
theorem expired_blob_not_found (V : Variant) (mac : Raw → Auth) (s : Store) (h₁ h₂ : List (Op Raw))
    (g : Guid) (b v : Bytes) (exp now : Nat) (hk : ∀ op ∈ h₂, op.keepsBlob g) :
    (exp < now → after V mac s (h₁ ++ [.setRVBlob g b v exp] ++ h₂) (.getRVBlob g now) = .notFound) ∧
    (now ≤ exp → after V mac s (h₁ ++ [.setRVBlob g b v exp] ++ h₂) (.getRVBlob g now) = .pair b v) := by
  have hb : (exec V mac s (h₁ ++ [.setRVBlob g b v exp] ++ h₂)).rvBlobs g = some (b, v, exp) := by
    rw [exec_append, keepsBlob_exec V mac g _ h₂ hk, exec_snoc]
    simp [step]
  constructor
  · intro hlt; unfold after; simp only [step, hb, hlt, if_true]
  · intro hle; unfold after; simp only [step, hb, Nat.not_lt.mpr hle, if_false]

/-- Whatever is stored: a blob whose expiry has passed is never returned. -/
theorem expired_blob_not_found_step (V : Variant) (mac : Raw → Auth) (s : Store) (g : Guid) (now : Nat)
    (hexp : ∀ b v exp, s.rvBlobs g = some (b, v, exp) → exp < now) :
    (step V mac s (.getRVBlob g now)).2 = .notFound := by
  simp only [step]
  cases hg : s.rvBlobs g with
  | none => rfl
  | some e =>
    obtain ⟨b, v, exp⟩ := e
    simp [hexp b v exp hg]

/-! ### voucher replacement -/

/-- REPLACE.  If `ReplaceVoucher g v'` returns `ok` (which it does exactly when `v'` has no
extensions, its GUID `g'` differs from `g` and is not stored, and `g` is stored), then afterwards
`Voucher g'` is `v'`, `Voucher g` is `notFound`, and every other voucher is as before; in every
other case the store is unchanged. -/
theorem replace_voucher (mac : Raw → Auth) (s : Store) (g g' : Guid) (ext : Bool) (v' : Bytes) :
    let s' := (step .repaired mac s (.replaceVoucher g g' ext v')).1
    let res := (step .repaired mac s (.replaceVoucher g g' ext v')).2
    (res = .ok ↔ ext = false ∧ g ≠ g' ∧ s.vouchers g' = none ∧ (s.vouchers g).isSome = true) ∧
    (res = .ok →
      (step .repaired mac s' (.getVoucher g')).2 = .value v' ∧
      (step .repaired mac s' (.getVoucher g)).2 = .notFound ∧
      ∀ g'', g'' ≠ g → g'' ≠ g' → s'.vouchers g'' = s.vouchers g'') ∧
    (res ≠ .ok → s' = s) := by
  intro s' res
  have hiff := replaceVoucher_ok_iff s g g' ext v'
  have hst := replaceVoucher_state s g g' ext v'
  refine ⟨hiff, ?_, ?_⟩
  · intro hok
    have hne : g ≠ g' := (hiff.mp hok).2.1
    have hs' : s' = { s with vouchers := upd (upd s.vouchers g' (some v')) g none } := by
      show (replaceVoucher .repaired s g g' ext v').1 = _
      rw [hst]; simp [show (replaceVoucher .repaired s g g' ext v').2 = .ok from hok]
    refine ⟨?_, ?_, ?_⟩
    · simp [step, hs', upd, Ne.symm hne, found]
    · simp [step, hs', upd, found]
    · intro g'' h1 h2; simp [hs', upd, h1, h2]
  · intro hno
    show (replaceVoucher .repaired s g g' ext v').1 = s
    rw [hst]; simp [show (replaceVoucher .repaired s g g' ext v').2 ≠ .ok from hno]

/-- Vouchers are read back as stored: after an `AddVoucher g v` that returned `ok`, and any later
history that neither removes `g` nor replaces it (nor replaces another voucher by one with GUID
`g`) — sessions coming and going, reopen, a refused second `AddVoucher g` — `Voucher g` is `v`. -/
theorem voucher_read_your_write (V : Variant) (mac : Raw → Auth) (s : Store) (h₁ h₂ : List (Op Raw))
    (g : Guid) (v : Bytes)
    (hok : after V mac s h₁ (.addVoucher g v) = .ok)
    (hk : ∀ op ∈ h₂, op.keepsVoucher g) :
    after V mac s (h₁ ++ [.addVoucher g v] ++ h₂) (.getVoucher g) = .value v := by
  have hadd : (step V mac (exec V mac s h₁) (.addVoucher g v)).1.vouchers g = some v := by
    unfold after at hok
    simp only [step] at hok ⊢
    cases hg : (exec V mac s h₁).vouchers g with
    | some x => simp [hg] at hok
    | none => simp
  have hv : (exec V mac s (h₁ ++ [.addVoucher g v] ++ h₂)).vouchers g = some v := by
    rw [exec_append]
    apply keepsVoucher_exec V mac g v _ h₂ hk
    rw [exec_snoc]; exact hadd
  unfold after
  simp only [step, hv, found]

/-! ### restarts -/

/-- REOPEN is invisible, one step: the abstract state after Close + Open (or with a fresh DB
object) is the state before, so every operation behaves as if nothing had happened. -/
theorem reopen_transparent (V : Variant) (mac : Raw → Auth) (s : Store) (op : Op Raw) :
    step V mac (step V mac s .reopen).1 op = step V mac s op := rfl

/-- REOPEN is invisible, histories: insert `reopen` anywhere, any number of times, into a
history (equivalently: delete all of them) — every other operation returns what it returned
before and the final store is the same.  This is what lets an onboarding continue on another
server instance between any two messages. -/
theorem reopen_transparent_history (V : Variant) (mac : Raw → Auth) (s : Store) (h : List (Op Raw)) :
    (trace V mac s h).filter (fun p => !p.1.isReopen) =
      trace V mac s (h.filter (fun op => !op.isReopen)) ∧
    exec V mac s h = exec V mac s (h.filter (fun op => !op.isReopen)) :=
  trace_filter_sim V mac (· = ·) Op.isReopen
    (fun s s' op hr hd => by
      cases op with
      | reopen => exact hr
      | _ => simp [Op.isReopen] at hd)
    (fun s s' op hr _ => by subst hr; exact ⟨rfl, rfl⟩) h s s rfl

/-! ### persistent state does not depend on sessions -/

/-- One step: no session operation — NewToken, InvalidateToken (with its ON DELETE CASCADE),
any Set/Get — touches vouchers, rendezvous blobs or keys. -/
theorem persistent_independent_of_sessions (V : Variant) (mac : Raw → Auth) (s : Store) (op : Op Raw)
    (hop : op.isSession = true) :
    (step V mac s op).1.vouchers = s.vouchers ∧ (step V mac s op).1.rvBlobs = s.rvBlobs ∧
    (step V mac s op).1.ownerKeys = s.ownerKeys ∧ (step V mac s op).1.mfgKeys = s.mfgKeys :=
  let h := session_persistent V mac s op hop
  ⟨h.vou, h.rvb, h.own, h.mfg⟩

/-- Histories: delete every session operation; the persistent operations (AddVoucher, Voucher,
ReplaceVoucher, RemoveVoucher, SetRVBlob, RVBlob, key methods) and reopen return what they
returned in the full history. -/
theorem persistent_independent_of_sessions_history (V : Variant) (mac : Raw → Auth) (s : Store)
    (h : List (Op Raw)) :
    (trace V mac s h).filter (fun p => !p.1.isSession) =
      trace V mac s (h.filter (fun op => !op.isSession)) :=
  (trace_filter_sim V mac SamePersistent Op.isSession
    (fun s _ op hr hd => (session_persistent V mac s op hd).trans hr)
    (fun s s' op hr hd => Agree.congr V mac _ s s' op (fun hs => absurd hs (by simp [hd])) hr)
    h s s (Agree.refl _ s)).1

/-! ### non-vacuity -/

/-- token strings of the examples: `some n` authenticates session n (n < 100), `some 100` is
too short, everything else is rejected -/
def exMac : Option Nat → Auth
  | some n => if n < 100 then .valid n else if n = 100 then .short else .invalid
  | none => .invalid

def g1 : Guid := [1]
def g2 : Guid := [2]

/-- Two interleaved sessions, a reopen between every two operations, an invalid and a short
token in between: session 0 reads back its own GUID and MTU. -/
example : results .repaired exMac Store.empty
    [.newToken 0 .to2, .reopen, .newToken 1 .di, .set (some 0) .guid [7], .reopen,
     .set (some 1) .guid [8], .set none .guid [9], .set (some 100) .guid [9], .set (some 0) .mtu [5],
     .reopen, .get (some 0) .guid, .get (some 1) .guid, .get (some 0) .mtu, .get (some 1) .mtu,
     .invalidate (some 1), .get (some 1) .guid, .set (some 1) .guid [1], .get (some 0) .guid,
     .get (some 7) .guid] =
    [.ok, .ok, .ok, .ok, .ok, .ok, .invalidSession, .invalidSession, .ok, .ok,
     .value [7], .value [8], .value [5], .notFound, .ok, .notFound, .error, .value [7], .notFound] := by
  decide +kernel

/-- `read_your_write` instantiated on that shape. -/
example : after .repaired exMac Store.empty
    ([.reopen] ++ [.newToken 0 .to2] ++ [.newToken 1 .di, .set (some 1) .guid [8]] ++
      [.set (some 0) .guid [7]] ++ [.reopen, .set (some 1) .guid [9], .invalidate (some 1), .set (some 0) .mtu [5]])
    (.get (some 0) .guid) = .value [7] :=
  (read_your_write exMac Store.empty [.reopen] [.newToken 1 .di, .set (some 1) .guid [8]]
    [.reopen, .set (some 1) .guid [9], .invalidate (some 1), .set (some 0) .mtu [5]]
    0 .to2 .guid [7] (some 0) (some 0) rfl rfl
    (by simp [Op.keeps]) (by simp [Op.quiet, exMac])).2

/-- Voucher replacement and blob expiry on a concrete store. -/
example : results .repaired exMac Store.empty
    [.addVoucher g1 [1, 1], .addVoucher g1 [1, 2], .replaceVoucher g1 g2 true [2, 2],
     .replaceVoucher g2 g1 false [3], .replaceVoucher g1 g1 false [3], .replaceVoucher g1 g2 false [2, 2],
     .getVoucher g1, .getVoucher g2, .removeVoucher g2, .removeVoucher g2,
     .setRVBlob g1 [4] [1, 1] 1000, .reopen, .getRVBlob g1 1000, .getRVBlob g1 1001, .getRVBlob g2 0] =
    [.ok, .error, .error, .error, .error, .ok, .notFound, .value [2, 2], .value [2, 2], .notFound,
     .ok, .ok, .pair [4] [1, 1], .notFound, .notFound] := by
  decide +kernel

/-- Key slots: the first key added wins; RSA2048RESTR ignores the requested size; RSAPKCS needs
an RSA key. -/
example : results .repaired exMac Store.empty
    [.addOwnerKey 10 0 [1], .addOwnerKey 10 0 [2], .ownerKey 10 3072, .addOwnerKey 5 0 [3],
     .addOwnerKey 5 2048 [4], .ownerKey 5 2048, .ownerKey 5 3072, .addOwnerKey 1 3072 [5], .ownerKey 1 0,
     .addMfgKey 11 0 false [6], .addMfgKey 11 0 true [6], .mfgKey 11 0, .ownerKey 11 0] =
    [.ok, .ok, .value [1], .error, .ok, .value [4], .notFound, .ok, .value [5],
     .error, .ok, .value [6], .notFound] := by
  decide +kernel

/-! ### the tree as found -/

/-- As found: a token string of fewer than 16 decoded bytes panics every accessor and
InvalidateToken (`rawToken[:sessionIDSize]` without a length check). -/
theorem short_token_panics_original :
    results .original exMac Store.empty
      [.get (some 100) .guid, .set (some 100) .guid [1], .invalidate (some 100)] =
    [.panic, .panic, .panic] := by decide +kernel

/-- As found: the second SetDeviceCertChain of a session is acknowledged but the first chain keeps
being read (no UNIQUE constraint on device_info.session, plain INSERT), and a second
SetIncompleteVoucherHeader fails (UNIQUE constraint, plain INSERT). -/
theorem read_your_write_fails_original :
    results .original exMac Store.empty
      [.newToken 0 .di, .set (some 0) .deviceCertChain [1], .set (some 0) .deviceCertChain [2],
       .get (some 0) .deviceCertChain, .set (some 0) .voucherHeader [1], .set (some 0) .voucherHeader [2],
       .get (some 0) .voucherHeader] =
    [.ok, .ok, .ok, .value [1], .ok, .error, .value [1]] := by decide +kernel

/-- As found: replacing an absent voucher by one with the same GUID is acknowledged and stores
nothing (the voucher just added is the one removed). -/
theorem replace_same_guid_lost_original :
    results .original exMac Store.empty [.replaceVoucher g1 g1 false [3], .getVoucher g1] =
    [.ok, .notFound] := by decide +kernel

/-- **Value fidelity of what the store keeps as CBOR**: a voucher, rendezvous information, a voucher
header or a rendezvous blob written to the database and read back is the value that was written
(`Unmarshal ∘ Marshal = id` on the regenerated schemas of the stored types; the abstract store above treats
values as opaque bytes — this is what makes that abstraction faithful for these types). -/
theorem stored_values_roundtrip (ok : Fdo.Cbor.CertOracle) (v : Fdo.Cbor.Val) (b : Bytes)
    (hl : b.length < 18446744073709551616) :
    ∀ s ∈ [Fdo.Gen.Schemas.s_Voucher, Fdo.Gen.Schemas.s_RvInfo, Fdo.Gen.Schemas.s_VoucherHeader,
           Fdo.Gen.Schemas.s_Sign1Tag_To1d_, Fdo.Gen.Schemas.s_X5Chain],
      Fdo.Cbor.marshalS s v = some b → Fdo.Cbor.conf ok 10000 Fdo.Cbor.maxDepth s v = true →
      Fdo.Cbor.unmarshalS ok s b = some v := by
  intro s hs hm hc
  have hfr : s.inFragment = true ∧ s.ptrDepth ≤ 63 := by
    simp only [List.mem_cons, List.not_mem_nil, or_false] at hs
    rcases hs with rfl | rfl | rfl | rfl | rfl <;> exact ⟨by decide +kernel, by decide +kernel⟩
  exact Fdo.Cbor.unmarshalS_marshalS ok s v b hfr.1 hfr.2 hm hc hl

end Fdo.Props.C18
