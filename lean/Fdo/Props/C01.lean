import Fdo.Proto.TO2Device
import Fdo.Facts
import Fdo.Props.C04
/-
C01 — the device completes TO2 only with the owner its voucher chain designates.
-/
namespace Fdo.Props.C01
open Fdo Fdo.Proto Fdo.Props.C04

/-- If the device proceeds to ProveDevice then: TO2.ProveOVHdr decoded with its payload; the
HelloDevice hash inside it is the hash of what the device sent; the advertised owner key
parses and 61 verifies under it; the nonce is the device's fresh nonce; every entry number
was answered in order and their count is the announced one; the header MAC verifies under the
device secret; the manufacturer key hashes to the value in the credential; the entry chain is
valid link by link (C04's `ChainOK`); the advertised key is the key of the chain's last entry;
and a supplied rendezvous blob verifies under that same key. -/
theorem proceed_only_with_designated_owner (O : DeviceOracles) (d : DeviceInputs)
    (h : verifyOwner O d = true) :
    ∃ p claim es H,
      d.proof = some p ∧ p.payloadPresent = true ∧
      O.hashFunc p.helloHashAlg = some H ∧ H d.helloBytes = p.helloHashVal ∧
      p.ownerKeyClaim = some claim ∧ O.keyOK claim = true ∧ O.proofSigOK claim p = true ∧
      p.nonce = d.helloNonce ∧ O.kexOK claim = true ∧
      fetched 0 d.entries = some es ∧ es.length = p.numEntries ∧
      verifyHeader O.hmac256 O.hmac384 d.secret (assembled p es) = .ok ∧
      verifyMfgKey O.sha256 O.sha384 d.credKeyHashAlg d.credKeyHashVal (assembled p es) = .ok ∧
      verifyEntries O.sha256 O.sha384 O.entrySigOK O.keyOK (assembled p es) = true ∧
      O.keyEq claim (ownerKey (assembled p es)) = true ∧
      (d.to1dPresent = true → O.to1dSigOK (ownerKey (assembled p es)) = true) := by
  unfold verifyOwner at h
  cases hp : d.proof with
  | none => simp [hp] at h
  | some p =>
    simp only [hp, Bool.and_eq_true] at h
    obtain ⟨⟨hpres, hhash⟩, hrest⟩ := h
    cases hH : O.hashFunc p.helloHashAlg with
    | none => simp [hH] at hhash
    | some H =>
      simp [hH] at hhash
      cases hc : p.ownerKeyClaim with
      | none => simp [hc] at hrest
      | some claim =>
        simp only [hc, Bool.and_eq_true, decide_eq_true_eq] at hrest
        obtain ⟨⟨⟨⟨⟨⟨hk, hs⟩, hn⟩, _⟩, hkex⟩, hlen⟩, hf⟩ := hrest
        cases hfe : fetched 0 d.entries with
        | none => simp [hfe] at hf
        | some es =>
          simp only [hfe, Bool.and_eq_true, decide_eq_true_eq, Bool.or_eq_true, Bool.not_eq_true'] at hf
          obtain ⟨⟨⟨⟨⟨h1, h2⟩, h3⟩, _⟩, h5⟩, h6⟩ := hf
          have hlen' : es.length = p.numEntries := (fetched_length hfe).trans hlen
          refine ⟨p, claim, es, H, rfl, hpres, hH, hhash, hc, hk, hs, hn, hkex, rfl, hlen', h1, h2, h3, h5, ?_⟩
          intro ht
          rcases h6 with h6 | h6
          · rw [ht] at h6; simp at h6
          · exact h6

/-- Entry numbers: the device accepts the answers only if the i-th carries number i (no
reordering, skipping or mis-numbering of entries). -/
theorem fetched_in_order (l : List (Option (Nat × EntryView))) (es : List EntryView) (start : Nat)
    (h : fetched start l = some es) :
    ∀ i (hi : i < l.length), ∃ e, l[i]? = some (some (start + i, e)) ∧ es[i]? = some e := by
  rw [fetched_eq_some] at h
  subst h
  intro i hi
  simp only [List.length_map, List.length_zipIdx] at hi
  exact ⟨es[i], by simp [hi], by simp [hi]⟩

/-- With the chain characterisation of C04: proceeding implies the link-by-link chain property
under the manufacturer key carried in 61. -/
theorem proceed_implies_chain (O : DeviceOracles) (d : DeviceInputs) (h : verifyOwner O d = true) :
    ∃ p es, d.proof = some p ∧ fetched 0 d.entries = some es ∧ O.keyOK p.mfgKey = true ∧
      (es = [] ∨ ∃ e0 rest H, es = e0 :: rest ∧ hashOf O.sha256 O.sha384 e0.prevAlg = some H ∧
        ChainOK H O.entrySigOK O.keyOK e0.prevAlg (H (p.guid ++ p.devInfo)) p.mfgKey (p.hdrBytes ++ p.hmacBytes) es) := by
  obtain ⟨p, _, es, _, hp, _, _, _, _, _, _, _, _, hf, _, _, _, hv, _, _⟩ := proceed_only_with_designated_owner O d h
  exact ⟨p, es, hp, hf, (verifyEntries_iff O.sha256 O.sha384 O.entrySigOK O.keyOK (assembled p es)).mp hv⟩


/-- **What the source does** (regenerated call-order facts of the device's `verifyVoucher`,
`verifyOwner`, `sendHelloDevice`): header MAC, manufacturer-key hash and entry chain are verified,
the advertised key compared and the blob verified; HelloDevice's hash is compared and 61's signature
verified before anything of it is used; the key-exchange validity and availability are checked. -/
theorem code_facts :
    Fdo.Facts.allBefore "verifyVoucher" ["sendNextOVEntry", "VerifyHeader", "VerifyManufacturerKey", "VerifyEntries", "Equal"] "Verify" = true ∧
    Fdo.Facts.before "sendHelloDevice" "Equal" "Verify" = true ∧
    Fdo.Facts.allBefore "verifyOwner" ["sendHelloDevice", "Valid", "Available"] "verifyVoucher" = true ∧
    -- the device's TO2: the owner is verified before the device proves itself, before service info is exchanged
    Fdo.Facts.before "TO2" "verifyOwner" "proveDevice" = true ∧
    Fdo.Facts.allBefore "TO2" ["verifyOwner", "proveDevice", "sendReadyServiceInfo"] "exchangeServiceInfo" = true := by decide +kernel

end Fdo.Props.C01
