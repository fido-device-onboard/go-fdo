import Fdo.Proto.ServerIsolation
import Fdo.Facts
import Fdo.Svc.PipelineProofs
/-
C19 — concurrent onboardings through one server are isolated (the logical part).

Two models.  For the server, non-interference at the granularity of atomic handler steps of the
request-level model: which state a response can depend on, and that requests of other sessions on
other devices do not change it.  For the device, the service-info pipeline as a two-party process model
(`Fdo.Svc.Pipeline`): no schedule deadlocks or runs for ever, and what is read is what was written.
Not proved: memory-level data races, and that the Go runtime blocks exactly where the process model does;
these are evidenced by the race detector and the watchdog of the harness.
-/
namespace Fdo.Props.C19
open Fdo.Proto.Server

/-- **No cross-session read.** The answer to a request on session `k` (response type and effects)
and the state `k` is left in are a function of `k`'s own state, the request, the configuration, and
the voucher / blob presence of the devices the request touches (the one it names and the one the
session's HelloDevice named): two deployments that agree on these — however different their other
sessions, nonces, keys, vouchers and module progress — answer identically. -/
theorem no_cross_session_read {st1 st2 : State} {r : Req} {k : Nat} {s : Sess}
    (htok : r.tok = .sess k) (hst : isStart r.typ = false) (h255 : r.typ ≠ 255)
    (h1 : st1.sessions[k]? = some s) (h2 : st2.sessions[k]? = some s)
    (hsame : SameFor (Touches s r) st1 st2) :
    (step st1 r).2 = (step st2 r).2 ∧ (step st1 r).1.sessions[k]? = (step st2 r).1.sessions[k]? :=
  step_local htok hst h255 h1 h2 hsame

/-- **A request changes only what it touches**: the configuration and the presence bits of every
device it does not touch are as before. (`hst` is not needed: a protocol start has no effects.) -/
theorem request_changes_only_its_devices {st : State} {r : Req} {k : Nat} {s : Sess}
    (htok : r.tok = .sess k) (hst : isStart r.typ = false) (hs : st.sessions[k]? = some s)
    (d : Nat) (hd : ¬ Touches s r d) :
    (step st r).1.reuse = st.reuse ∧ (step st r).1.modRounds = st.modRounds ∧
    (step st r).1.vouchers.contains d = st.vouchers.contains d ∧
    (step st r).1.blobs.contains d = st.blobs.contains d :=
  ⟨(step_config st r).1, (step_config st r).2, step_frame st r d (fun h => by
    cases htok.symm.trans h.tok; cases hs.symm.trans h.get; exact hd)⟩

/-- **Each session obtains the outcome it would obtain alone.** Let any sequence `others` of
requests run first, each of them a protocol start or a request under another token that touches
none of the devices the request `r` of session `k` touches. Then `r` is answered exactly as if
`others` had never happened, and leaves session `k` in the same state. (By induction this carries
over to the whole run of a session interleaved in any way with foreign ones.) -/
theorem others_do_not_matter {st : State} {r : Req} {k : Nat} {s : Sess} (others : List Req)
    (htok : r.tok = .sess k) (hst : isStart r.typ = false) (h255 : r.typ ≠ 255)
    (hk : st.sessions[k]? = some s)
    (hforeign : ∀ pre q post, others = pre ++ q :: post → Foreign k (Touches s r) (stateAfter st pre) q) :
    (step (stateAfter st others) r).2 = (step st r).2 ∧
    (step (stateAfter st others) r).1.sessions[k]? = (step st r).1.sessions[k]? := by
  obtain ⟨hk', hsame⟩ := foreign_history others st hk hforeign
  exact step_local htok hst h255 hk' hk hsame

/-- **Independent requests commute.** Two requests on different sessions whose devices are
disjoint get, in either order, the answers they get alone. -/
theorem independent_requests_commute {st : State} {r1 r2 : Req} {k1 k2 : Nat} {s1 s2 : Sess}
    (hne : k1 ≠ k2)
    (ht1 : r1.tok = .sess k1) (hs1 : isStart r1.typ = false) (h1 : r1.typ ≠ 255) (hk1 : st.sessions[k1]? = some s1)
    (ht2 : r2.tok = .sess k2) (hs2 : isStart r2.typ = false) (h2 : r2.typ ≠ 255) (hk2 : st.sessions[k2]? = some s2)
    (hdis : ∀ d, Touches s1 r1 d → ¬ Touches s2 r2 d) :
    (step (step st r1).1 r2).2 = (step st r2).2 ∧ (step (step st r2).1 r1).2 = (step st r1).2 := by
  -- `ra` of session `ka` is foreign to session `kb` and its devices, so `rb` is answered as without it
  have half : ∀ {ra rb : Req} {ka kb : Nat} {sa sb : Sess}, ka ≠ kb → ra.tok = .sess ka →
      st.sessions[ka]? = some sa → rb.tok = .sess kb → isStart rb.typ = false → rb.typ ≠ 255 →
      st.sessions[kb]? = some sb → (∀ d, Touches sb rb d → ¬ Touches sa ra d) →
      (step (step st ra).1 rb).2 = (step st rb).2 := by
    intro ra rb ka kb sa sb hne hta hka htb hsb hb hkb hdis
    have hf : Foreign kb (Touches sb rb) st ra :=
      .inr ⟨by rw [hta]; exact fun h => hne (TokRef.sess.inj h), fun j sj hj hsj d hdb hda => by
        rw [hta] at hj; cases hj; rw [hka] at hsj; cases hsj; exact hdis d hdb hda⟩
    obtain ⟨hk', hsame⟩ := foreign_step hf hkb
    exact (step_local htb hsb hb hk' hkb hsame).1
  exact ⟨half hne ht1 hk1 ht2 hs2 h2 hk2 fun d h2' h1' => hdis d h1' h2',
    half hne.symm ht2 hk2 ht1 hs1 h1 hk1 hdis⟩

/-- **Every schedule gives each session the answers of its solo run.** Take any history `hist` that
interleaves the requests `mine` of session `k` (in their order) with arbitrary other traffic that is
foreign to `k` — protocol starts, and requests under other tokens on devices outside `D`, the set of
devices `k` deals with. Then the answers given along `hist` to `k`'s requests (response types and
effects) are exactly those of running `mine` alone, and this holds from any two deployments that
agree on `k` and on `D`. In particular it does not depend on where in `hist` the foreign requests
fall: all interleavings are equivalent for `k`. -/
theorem interleaving_irrelevant (k : Nat) (D : Nat → Prop) (s : Sess) (st1 st2 : State) (mine hist : List Req)
    (h1 : st1.sessions[k]? = some s) (h2 : st2.sessions[k]? = some s) (hsame : SameFor D st1 st2)
    (hg : ∀ d, s.guid = some d → D d)
    (hm : ∀ r ∈ mine, r.tok = .sess k ∧ isStart r.typ = false ∧ r.typ ≠ 255 ∧ D r.dev)
    (hi : Interleaved k D st1 hist mine) :
    answersTo k st1 hist = (run st2 mine).2 := by
  induction hist generalizing s st1 st2 mine with
  | nil =>
    simp only [Interleaved] at hi
    subst hi
    simp [answersTo, run]
  | cons q hist ih =>
    simp only [Interleaved] at hi
    rcases hi with ⟨mine', rfl, hi'⟩ | ⟨hf, hi'⟩
    · -- `q` is the session's own next request: both deployments answer it alike and still agree
      obtain ⟨htok, hst, h255, hdev⟩ := hm q (by simp)
      have hD : ∀ d, Touches s q d → D d := fun d hd => hd.elim (fun h => h ▸ hdev) (hg d)
      obtain ⟨hans, ⟨s', hs1, hs2, hguid⟩, hsame'⟩ := step_both htok hst h255 h1 h2 hD hsame
      have := ih s' (step st1 q).1 (step st2 q).1 mine' hs1 hs2 hsame' (by rw [hguid]; exact hg)
        (fun r hr => hm r (by simp [hr])) hi'
      rw [run_cons, ← hans, ← this]
      simp [answersTo, htok, hst]
    · -- `q` is foreign: it leaves the session and its devices alone, and is not among the answers
      obtain ⟨hk', hsame'⟩ := foreign_step hf h1
      rw [← ih s (step st1 q).1 st2 mine hk' h2 (hsame'.trans hsame) hg hm hi']
      have hskip : ¬ (q.tok = .sess k ∧ isStart q.typ = false) := by
        rcases hf with h | ⟨h, _⟩
        · exact fun hc => nomatch hc.2.symm.trans h
        · exact fun hc => h hc.1
      simp [answersTo, hskip]

/-! Non-vacuity: two TO2 sessions for devices 1 and 2; the ProveDevice of one is answered the same
whether or not the other session's ProveDevice, DeviceServiceInfoReady and Done ran first. -/
example :
    let st := stateAfter (init [1, 2] false 2) [{ tok := .none, typ := 60, dev := 1 }, { tok := .none, typ := 60, dev := 2 }]
    let others : List Req := [
      { tok := .sess 1, typ := 64, dev := 2, nonceOf := some 1, signer := some 2, xb := 9 },
      { tok := .sess 1, typ := 66, enc := some (1, 9), hmac := true },
      { tok := .sess 1, typ := 70, enc := some (1, 9), nonceOf := some 1 }]
    let r : Req := { tok := .sess 0, typ := 64, dev := 1, nonceOf := some 0, signer := some 1, xb := 7 }
    (step (stateAfter st others) r).2 = (65, []) ∧ (step st r).2 = (65, []) := by decide +kernel

/-! ### the device-side pipeline (process model, `Fdo.Svc.Pipeline`)

Two parties — the module goroutine writing through the `UnchunkWriter`, the transport loop reading
through the `ChunkReader` — joined by a channel of `cap` pipe readers and unbounded buffered pipes
(`NewChunkOutPipe(1000)` for the module rounds of to2.go; the devmod round uses `NewChunkOutPipe(0)`, an
unbuffered channel and `io.Pipe`, whose writes wait for the reader: outside this model). A schedule is any interleaving of their enabled steps; the reader may take any
non-empty part of the available bytes at each read. What is proved is about this model; that the Go
pipeline has exactly these blocking points is read off the source (chunk.go: the only blocking
operations are the channel send in `nextPipe`, the channel receive and the pipe read in `ReadChunk`)
and exercised by the delay permutations and watchdog of the harness. -/

open _root_.Fdo.Svc.Pipeline in
/-- **The pipeline never deadlocks**: in every state reachable under any schedule, for any script of
module calls, any channel capacity ≥ 1 and any data volume, either both parties have finished or one
of them can take a step. -/
theorem pipeline_never_deadlocks (cap : Nat) (script : List Act) (hc : 1 ≤ cap) (s : St)
    (h : Reach cap script s) (hf : ¬ s.final) : ∃ t, Step s t :=
  progress s (by rw [reach_cap h]; exact hc) (inv_reach cap script s h) hf

open _root_.Fdo.Svc.Pipeline in
/-- **Every schedule terminates** (no livelock): the number of steps any schedule can take from the
initial state is bounded by a measure of the script alone — so, with `pipeline_never_deadlocks`,
every schedule reaches the state where both parties have finished. -/
theorem pipeline_terminates (cap : Nat) (script : List Act) (n : Nat) (s : St)
    (h : Run n (St.init cap script) s) : n + measure s ≤ measure (St.init cap script) :=
  run_measure h

open _root_.Fdo.Svc.Pipeline in
/-- **What the transport loop reads is what the modules wrote, whatever the relative speed of the two
goroutines**: in every final state reached by any schedule the bytes read equal the bytes of the
script's writes, in order (writes refused because they follow a forced break without a new message
excluded). (`hc` is not needed: the stream invariant holds for every capacity.) -/
theorem pipeline_schedule_independent (cap : Nat) (script : List Act) (hc : 1 ≤ cap) (s : St)
    (h : Reach cap script s) (hf : s.final) : evBytes s.out = scriptBytes false script :=
  stream_final (inv_reach cap script s h) (stream_reach cap script s h) hf

open _root_.Fdo.Svc.Pipeline in
/-- the channel never holds more than its capacity: the module goroutine waits instead (and, being the
only waiter on a full channel, is released by the reader's next receive); `hc` is not needed -/
theorem pipeline_queue_bounded (cap : Nat) (script : List Act) (hc : 1 ≤ cap) (s : St)
    (h : Reach cap script s) : s.queued ≤ cap :=
  reach_cap h ▸ (inv_reach cap script s h).queued_le

open _root_.Fdo.Svc.Pipeline in
/-- Non-vacuity: with a one-slot channel, a script of two messages and a forced break has a schedule in
which the module goroutine is made to wait, and the state is not stuck. -/
example :
    let s₀ := St.init 1 [.next, .write [1, 2], .yield, .next, .write [3]]
    ∃ s₁ s₂, Step s₀ s₁ ∧ Step s₁ s₂ ∧ s₂.queued = 1 ∧ ¬ s₂.final := by
  refine ⟨_, _, Step.mNext _ _ rfl (by decide), Step.mWrite _ [1, 2] _ rfl, by decide, by simp [St.final, St.init]⟩

/-- **What the source does, and in which goroutine** (regenerated call-order and `go`-statement facts):
in `exchangeServiceInfo` the owner's messages of an ordinary round are handled in a goroutine, the messages
that arrive with IsDone are handled *synchronously* (once outside any `go` statement) while what the device
modules still write is discarded in a goroutine, and Done is sent after that; in the SQLite store the token
secret is inserted-or-ignored first and then read back, so every concurrent first request ends up with the
stored secret. -/
theorem code_facts :
    Fdo.Facts.atLeast "exchangeServiceInfo" "handleOwnerModuleMessages" 2 = true ∧
    Fdo.Facts.syncCount "exchangeServiceInfo" "handleOwnerModuleMessages" = 1 ∧
    (Fdo.Facts.goCallsOf "exchangeServiceInfo").contains "discardDeviceInfo" = true ∧
    Fdo.Facts.before "DB.loadOrStoreSecret" "insertOrIgnore" "query" = true ∧
    Fdo.Facts.before "DB.NewToken" "loadOrStoreSecret" "insert" = true := by decide +kernel

end Fdo.Props.C19
