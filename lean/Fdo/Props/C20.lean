import Fdo.RvProofs
import Fdo.Gen.Rv
/-
C20 — rendezvous instructions are interpreted totally and per role as specified.

The model `Fdo.Rv.parseDirective` mirrors `protocol/rv.go` and `cbor/array.go` WITH the four repairs
fix-1 … fix-4 applied (see the header of `Fdo/Rv.lean`); every statement of the property is proved at full
strength, for all instruction lists of any length over any variable numbers and any byte strings as values,
for both views. `Fdo.RvSpec.specDirective` is the independent table-driven reference interpreter.
The four defects that were repaired — empty `RVExtRV` panics; `RVDns`/`RVIPAddress` values that fail to
decode are used or wipe an earlier address; negative/overflowing `RVDelaysec`; a second `RVProtocol` keeps the
first one's default port — are not modelled; the inputs that exhibited them are handled as the property asks:
`extrv_empty_ignored`, `former_defects_repaired`.
-/
namespace Fdo.Props.C20
open Fdo Fdo.Rv Fdo.RvSpec Fdo.RvProofs

/-! ### totality -/

/-- Interpreting a directive never panics: the loop has no panic site left (`cbor.ArrayShift`
is total), so no outcome is a panic. -/
theorem parse_never_panics (dev : Bool) (is : List RvInstr) (s : String) :
    parseDirective dev is ≠ .panic s := by
  rw [parseDirective_eq_spec]
  unfold specDirective
  split <;> simp

/-- Hence `ParseDeviceRvInfo`/`ParseOwnerRvInfo` return one directive per input directive. -/
theorem parseRvInfo_total (dev : Bool) (dirs : List (List RvInstr)) :
    ∃ ds, parseRvInfo dev dirs = .ok ds ∧ ds.length = dirs.length := by
  induction dirs with
  | nil => exact ⟨[], rfl, rfl⟩
  | cons is rest ih =>
    obtain ⟨ds, h, hl⟩ := ih
    unfold parseRvInfo
    cases hp : parseDirective dev is with
    | panic s => exact absurd hp (parse_never_panics dev is s)
    | dropped => exact ⟨Directive.zero :: ds, by simp [h, Except.map], by simp [hl]⟩
    | ok d => exact ⟨d :: ds, by simp [h, Except.map], by simp [hl]⟩

/-- An empty `RVExtRV` value — the former panic — is now ignored like any malformed value. -/
theorem extrv_empty_ignored (dev : Bool) (l1 l2 : List RvInstr) :
    parseDirective dev (l1 ++ ⟨15, []⟩ :: l2) = parseDirective dev (l1 ++ l2) := by
  rw [parseDirective_eq_spec, parseDirective_eq_spec]
  exact spec_malformed dev l1 l2 _ (by decide)

/-! ### role filter -/

/-- A directive marked for the other role (`RVOwnerOnly` in the device view, `RVDevOnly` in the
owner view) contributes nothing: no addresses and no other field, wherever the marker stands. -/
theorem other_role_contributes_nothing (dev : Bool) (is : List RvInstr)
    (hm : ∃ i ∈ is, i.var = (roleRow dev).otherOnlyVar) : parseDirective dev is = .dropped := by
  rw [parseDirective_eq_spec]
  unfold specDirective
  have : is.any (fun i => decide (i.var = (roleRow dev).otherOnlyVar)) = true := by
    obtain ⟨i, hi, hv⟩ := hm
    exact List.any_eq_true.mpr ⟨i, hi, by simp [hv]⟩
  simp [this]

/-- … and only such a marker makes a directive contribute nothing as a whole. -/
theorem dropped_only_by_marker (dev : Bool) (is : List RvInstr) (h : parseDirective dev is = .dropped) :
    ∃ i ∈ is, i.var = (roleRow dev).otherOnlyVar := by
  rw [parseDirective_eq_spec] at h
  unfold specDirective at h
  split at h
  · rename_i ha
    obtain ⟨i, hi, hv⟩ := List.any_eq_true.mp ha
    exact ⟨i, hi, by simpa using hv⟩
  · cases h

/-- In the API a dropped directive is the zero `RvDirective`: no URL at all. -/
theorem dropped_is_zero (dev : Bool) (is : List RvInstr) (h : parseDirective dev is = .dropped) :
    parseRvInfo dev [is] = .ok [Directive.zero] := by
  simp [parseRvInfo, h, Except.map]

/-! ### model = specification tables -/

/-- For every instruction list the interpreter computes exactly what the table-driven
reference interpreter prescribes: dropped or not, URLs (scheme, DNS and/or IP host, port),
bypass, delay, medium, wifi, external RV and certificate hashes. -/
theorem parse_eq_spec (dev : Bool) (is : List RvInstr) :
    parseDirective dev is = specDirective dev is := parseDirective_eq_spec dev is

/-- `parseURLs` alone likewise. -/
theorem parseURLs_eq_spec (dev : Bool) (is : List RvInstr) :
    parseURLs dev is = specURLs dev is := RvProofs.parseURLs_eq_spec dev is

/-! ### order -/

/-- The result does not depend on the order of instructions with pairwise distinct variables. -/
theorem order_independent (dev : Bool) (l l' : List RvInstr) (hd : (l.map (·.var)).Nodup) (hp : l.Perm l') :
    parseDirective dev l = parseDirective dev l' := by
  rw [parseDirective_eq_spec, parseDirective_eq_spec]
  exact spec_perm dev hp hd

/-! ### ports per role -/

/-- Every URL carries the port of the role's own port variable (device: `RVDevPort`, owner:
`RVOwnerPort`; last valid uint16 value), else the default port of its scheme (http 80,
https 443, coap and coap+tcp 5683, tcp and tls none). -/
theorem role_port (dev : Bool) (is : List RvInstr) (u : Url) (hu : u ∈ parseURLs dev is) :
    u.port = orElse (lastValid (onVar (if dev then 3 else 4) readU16) is) (defaultPort u.scheme) := by
  rw [RvProofs.parseURLs_eq_spec] at hu
  exact spec_url_port dev is u hu

/-- The other role's port variable is not looked at at all. -/
theorem role_port_other_ignored (dev : Bool) (l1 l2 : List RvInstr) (i : RvInstr)
    (h : i.var = if dev then 4 else 3) :
    parseDirective dev (l1 ++ i :: l2) = parseDirective dev (l1 ++ l2) := by
  rw [parseDirective_eq_spec, parseDirective_eq_spec]
  exact spec_other_port dev l1 l2 i (by cases dev <;> simpa [roleRow] using h)

/-! ### malformed values -/

/-- An instruction whose value does not decode (`cbor.Unmarshal` returns an error, be it for
the wrong type, range, truncation, trailing bytes or an over-limit length) as the type of its
variable is ignored: the result is that of the list without it. -/
theorem malformed_ignored (dev : Bool) (l1 l2 : List RvInstr) (i : RvInstr) (hm : malformed i = true) :
    parseDirective dev (l1 ++ i :: l2) = parseDirective dev (l1 ++ l2) := by
  rw [parseDirective_eq_spec, parseDirective_eq_spec]
  exact spec_malformed dev l1 l2 i hm

/-- The former witnesses now behave: trailing bytes after a DNS name, a partially decodable
address array, a negative or huge delay are malformed and leave no trace; a malformed second
address does not wipe the first; https after http gets 443. -/
theorem former_defects_repaired :
    parseURLs true [⟨5, [0x61, 0x61, 0x00]⟩] = [] ∧
    parseURLs true [⟨2, [0x84, 0x01, 0x02, 0xf5, 0x04]⟩] = [] ∧
    parseURLs true [⟨2, [0x44, 1, 2, 3, 4]⟩, ⟨2, [0x05]⟩] = [⟨.tls, .ip [1, 2, 3, 4], none⟩] ∧
    parseDirective true [⟨13, [0x20]⟩] = .ok Directive.zero ∧
    parseDirective true [⟨13, [0x1b, 0, 0, 0, 2, 0x25, 0xc1, 0x7d, 0x05]⟩] = .ok Directive.zero ∧
    parseDirective true [⟨15, []⟩] = .ok Directive.zero ∧
    parseURLs true [⟨12, [0x01]⟩, ⟨12, [0x02]⟩, ⟨5, [0x61, 0x61]⟩] = [⟨.https, .dns [0x61], some 443⟩] := by decide +kernel

/-! ### regenerated constants and tables -/

/-- The model's variable, protocol and medium numbers are those of package `protocol`. -/
theorem gen_constants_eq :
    Fdo.Gen.Rv.rvVars = [("RVDevOnly", rvDevOnly), ("RVOwnerOnly", rvOwnerOnly), ("RVIPAddress", rvIPAddress),
      ("RVDevPort", rvDevPort), ("RVOwnerPort", rvOwnerPort), ("RVDns", rvDns), ("RVSvCertHash", rvSvCertHash),
      ("RVClCertHash", rvClCertHash), ("RVUserInput", rvUserInput), ("RVWifiSsid", rvWifiSsid), ("RVWifiPw", rvWifiPw),
      ("RVMedium", rvMedium), ("RVProtocol", rvProtocol), ("RVDelaysec", rvDelaysec), ("RVBypass", rvBypass),
      ("RVExtRV", rvExtRV)] ∧
    Fdo.Gen.Rv.rvProtocols = [("RVProtRest", rvProtRest), ("RVProtHTTP", rvProtHTTP), ("RVProtHTTPS", rvProtHTTPS),
      ("RVProtTCP", rvProtTCP), ("RVProtTLS", rvProtTLS), ("RVProtCoapTCP", rvProtCoapTCP), ("RVProtCoapUDP", rvProtCoapUDP)] ∧
    Fdo.Gen.Rv.rvMedia = [("RVMedEthAll", rvMedEthAll), ("RVMedWifiAll", rvMedWifiAll)] := ⟨rfl, rfl, rfl⟩

def portText : Option Nat → String
  | none => ""
  | some p => toString p

/-- The code's protocol → (scheme, default port) behaviour, obtained by running it on all 256
values in both views, is the specification's protocol table. -/
theorem gen_proto_table_eq :
    Fdo.Gen.Rv.protoTable = (List.range 256).map (fun p =>
      let s := (schemeOfProto p).getD defaultScheme
      (s.text, portText (defaultPort s))) ∧
    Fdo.Gen.Rv.protoTableOwner = Fdo.Gen.Rv.protoTable ∧
    Fdo.Gen.Rv.protoDefault = (defaultScheme.text, portText (defaultPort defaultScheme)) := by decide +kernel

/-- The code's medium → interface behaviour on all 256 values is the specification's medium table. -/
theorem gen_medium_table_eq :
    Fdo.Gen.Rv.mediumTable = (List.range 256).map (fun m =>
      ((mediumFor .eth m).getD 256, (mediumFor .wlan m).getD 256)) := by decide +kernel

/-- The code's role columns (which variable supplies the port, which marker drops the
directive, found by running it on all 16 variables) are the specification's. -/
theorem gen_role_columns_eq :
    Fdo.Gen.Rv.devPortVars = [(roleRow true).portVar] ∧ Fdo.Gen.Rv.devDropVars = [(roleRow true).otherOnlyVar] ∧
    Fdo.Gen.Rv.ownPortVars = [(roleRow false).portVar] ∧ Fdo.Gen.Rv.ownDropVars = [(roleRow false).otherOnlyVar] := by decide

/-! ### non-vacuity -/

/-- A five-instruction directive (https, DNS, IPv4, device port, delay) has distinct variables
and yields two URLs with the device port (hypotheses of `order_independent`, `role_port`). -/
example :
    let is : List RvInstr := [⟨12, [0x02]⟩, ⟨5, [0x63, 0x61, 0x2e, 0x62]⟩,
      ⟨2, [0x44, 192, 0, 2, 1]⟩, ⟨3, [0x19, 0x1f, 0x90]⟩, ⟨13, [0x0a]⟩]
    (is.map (·.var)).Nodup ∧
    parseDirective true is = .ok { Directive.zero with
      urls := [⟨.https, .dns [0x61, 0x2e, 0x62], some 8080⟩, ⟨.https, .ip [192, 0, 2, 1], some 8080⟩]
      delay := 10000000000 } := by decide

/-- The owner view of the same addresses ignores `RVDevPort` and falls back to 443. -/
example :
    parseURLs false [⟨12, [0x02]⟩, ⟨2, [0x44, 192, 0, 2, 1]⟩, ⟨3, [0x19, 0x1f, 0x90]⟩] =
      [⟨.https, .ip [192, 0, 2, 1], some 443⟩] := by decide

/-- Malformed values exist for every typed variable (hypothesis of `malformed_ignored`):
trailing bytes, wrong type, out of range, truncated, empty. -/
example : malformed ⟨5, [0x61, 0x61, 0x00]⟩ = true ∧ malformed ⟨3, [0x61, 0x61]⟩ = true ∧
    malformed ⟨12, [0x19, 0x01, 0x00]⟩ = true ∧ malformed ⟨2, [0x44, 1, 2]⟩ = true ∧ malformed ⟨15, []⟩ = true ∧
    malformed ⟨13, [0x20]⟩ = true ∧ malformed ⟨6, [0x81, 0x2f]⟩ = true ∧ malformed ⟨11, [0xf6]⟩ = true ∧
    malformed ⟨5, [0x61, 0x61]⟩ = false := by decide

/-- A marked directive (hypothesis of `other_role_contributes_nothing`), and the other fields
of a directive are reachable: bypass, medium, wifi, certificate hashes. -/
example :
    (∃ i ∈ [(⟨5, [0x61, 0x61]⟩ : RvInstr), ⟨0, []⟩], i.var = (roleRow false).otherOnlyVar) ∧
    parseDirective true [⟨14, []⟩, ⟨11, [0x0d]⟩, ⟨9, [0x61, 0x73]⟩, ⟨10, [0x61, 0x70]⟩,
      ⟨6, [0x82, 0x2f, 0x41, 0xaa]⟩, ⟨7, [0x82, 0x38, 0x2a, 0x41, 0xbb]⟩] =
      .ok { Directive.zero with
        bypass := true
        wlan := some 3
        ssid := [0x73]
        pass := [0x70]
        svCert := some (-16, [0xaa])
        clCert := some (-43, [0xbb]) } :=
  ⟨⟨⟨0, []⟩, by simp, by decide⟩, by decide⟩

/-- External RV is reachable too: `["m", 1]` gives mechanism "m" and the argument array `[1]`. -/
example : parseDirective true [⟨15, [0x82, 0x61, 0x6d, 0x01]⟩] =
    .ok { Directive.zero with extMech := [0x6d], extArgs := [0x81, 0x01] } := by
  have h : arrayShift [0x82, 0x61, 0x6d, 0x01] = .ok [0x61, 0x6d] [0x81, 0x01] := by
    simp [arrayShift, Cbor.decHead, Cbor.decode1, Cbor.decode, shiftLen, Cbor.maxLen, Cbor.encHead]
  have h2 : unmarshalStr [0x61, 0x6d] = ⟨some [0x6d], true⟩ := by decide
  have h3 : parseURLs true [⟨15, [0x82, 0x61, 0x6d, 0x01]⟩] = [] := by decide
  simp [parseDirective, dirLoop, dirStep, h, h2, h3, applyExt, Directive.zero, rvDevOnly, rvOwnerOnly, rvBypass, rvMedium,
    rvWifiSsid, rvWifiPw, rvExtRV]

end Fdo.Props.C20
