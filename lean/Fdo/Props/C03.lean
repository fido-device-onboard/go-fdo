import Fdo.Proto.Handover
import Fdo.Cbor.TypedProofs
import Fdo.Gen.Schemas
import Fdo.Proto.ServerProofs
import Fdo.Facts
import Fdo.Store
import Fdo.StoreProofs
/-
C03 — ownership handover leaves device credential and stored voucher in agreement.
-/
namespace Fdo.Props.C03
open Fdo Fdo.Proto

/-- TO2: when the device read the current voucher's header in 61 and the SetupDevice the owner
built from its session, the header the device MACs is field for field the header the owner
stores at Done. -/
theorem device_header_eq_owner_header (cur : Hdr) (s : OwnerSession) (ownerKey : Bytes) :
    deviceReplacementHdr cur (setupOf s ownerKey) = ownerReplacementHdr cur s ownerKey := rfl

/-- TO2 (no reuse): credential returned by the device and voucher stored by the owner agree,
for every header encoding, MAC and key hash function. -/
theorem to2_agreement (enc : Hdr → Bytes) (mac H : Bytes → Bytes) (cur : Hdr) (s : OwnerSession) (ownerKey : Bytes) :
    let devHdr := deviceReplacementHdr cur (setupOf s ownerKey)
    agrees enc mac H (credOf H devHdr) ⟨ownerReplacementHdr cur s ownerKey, mac (enc devHdr)⟩ := by
  simp [agrees, credOf, deviceReplacementHdr, ownerReplacementHdr, setupOf]

/-- DI: the manufacturer stores the header it sent together with the MAC the device computed over
the header it received; if decoding and re-encoding the header is the identity on its encoding
(`stable`, checked for every generated header by the C11 run), they agree. -/
theorem di_agreement (enc : Hdr → Bytes) (mac H : Bytes → Bytes) (sent received : Hdr)
    (stable : enc received = enc sent) (same : received.mfgKey = sent.mfgKey ∧ received.guid = sent.guid ∧
      received.rvInfo = sent.rvInfo ∧ received.devInfo = sent.devInfo ∧ received.version = sent.version) :
    agrees enc mac H (credOf H received) ⟨sent, mac (enc received)⟩ := by
  obtain ⟨h1, h2, h3, h4, h5⟩ := same
  simp [agrees, credOf, stable, h1, h2, h3, h4, h5]

/-- Atomicity: whatever requests arrive, as long as no Done was accepted the owner's stored
voucher is untouched (induction over the event list). -/
theorem store_untouched_before_done (store : Option Stored) (evs : List OwnerEvent)
    (h : ∀ e ∈ evs, ∃ t, e = .other t) : evs.foldl storeStep store = store :=
  List.foldlRecOn evs storeStep (motive := (· = store)) rfl fun _ hs e he => by
    obtain ⟨t, rfl⟩ := h e he
    exact hs

/-- Resale chain: agreement is what the next onboarding needs — the next owner's TO2 verifies
the header MAC with the device secret over the stored header and the manufacturer-key hash
against the credential. -/
theorem agreement_gives_next_verification (enc : Hdr → Bytes) (mac H : Bytes → Bytes) (c : Cred) (v : Stored)
    (h : agrees enc mac H c v) : mac (enc v.hdr) = v.mac ∧ H v.hdr.mfgKey = c.keyHash :=
  ⟨h.1.symm, h.2.1.symm⟩

/-- Non-vacuity of `agrees`: a credential and a stored voucher that agree under a toy encoding, MAC and hash. -/
example : agrees (fun h => h.guid ++ h.mfgKey) (fun b => b.reverse) (fun b => [UInt8.ofNat b.length])
    (credOf (fun b => [UInt8.ofNat b.length]) ⟨101, [1], [2], [3], [4, 4], none⟩)
    ⟨⟨101, [1], [2], [3], [4, 4], none⟩, [4, 4, 1]⟩ := by
  simp [agrees, credOf]


/-- **What the source does, in which order** (regenerated call-order facts of
`TO2Server.to2Done2` and `DIServer.diDone`): the replacement voucher is stored only after the
nonce comparison and after session GUID, current voucher, replacement rendezvous info and GUID
were read; the DI voucher only after the session's header and certificate chain were read. -/
theorem code_facts :
    Fdo.Facts.allBefore "TO2Server.to2Done2" ["Equal", "ReplacementHmac", "Voucher", "RvInfo", "ReplacementGUID", "ownerKey"] "ReplaceVoucher" = true ∧
    Fdo.Facts.allBefore "DIServer.diDone" ["IncompleteVoucherHeader", "DeviceCertChain"] "AddVoucher" = true ∧
    Fdo.Facts.before "DIServer.setCredentials" "RvInfo" "SetIncompleteVoucherHeader" = true ∧
    -- sqlite ReplaceVoucher: insert, then delete; a second delete (the roll-back) under a context made from Background
    Fdo.Facts.before "DB.ReplaceVoucher" "AddVoucher" "remove" = true ∧
    Fdo.Facts.atLeast "DB.ReplaceVoucher" "remove" 2 = true ∧
    Fdo.Facts.before "DB.ReplaceVoucher" "AddVoucher" "Background" = true := by decide +kernel

open Fdo.Proto.Server in
/-- **The owner's voucher store is untouched before Done is accepted** (request-level server
model, any history of requests of any sessions, any next request): the store changes only in a step
whose request is TO2.Done and whose answer is Done2 — never in a step that is cut, refused or
answered by an error. -/
theorem owner_store_changes_only_at_accepted_done (v : List Nat) (reuse : Bool) (m : Nat) (history : List Req) (r : Req) :
    let st := stateAfter (init v reuse m) history
    (step st r).1.vouchers ≠ st.vouchers → r.typ = 70 ∧ (step st r).2.1 = 71 := by
  intro st hne
  have hinv : Inv st := stateAfter_inv (init_inv v reuse m) history
  rcases step_served_or st r with ⟨k, s, s', resp, eff, h⟩ | ⟨_, _, hstep, _⟩
  · rw [h.step_eq] at hne ⊢
    have hresp := handle_resp h.handled
    by_cases hrep : ∃ e ∈ eff, ∃ k' d, e = Effect.replaceVoucher k' d
    · obtain ⟨e, he, k', d, rfl⟩ := hrep
      have h70 : r.typ = 70 := (handle_effects (hinv k s h.get) h.handled _ he).2.1
      exact ⟨h70, by simp only; omega⟩
    · exact absurd (applyEffs_vouchers_same _ eff (fun e he k' d heq => hrep ⟨e, he, k', d, heq⟩)) hne
  · rw [hstep] at hne; exact absurd rfl hne


/-! ### the SQLite owner store: a voucher replacement interrupted between its two statements -/

open Fdo.Store in
/-- **A replacement that does not succeed leaves the voucher store as it was, wherever the request's
context ends** (`DB.ReplaceVoucher` = INSERT the replacement, DELETE the old voucher, with a best-effort
removal of the replacement under a context of its own when the DELETE fails): for every cut point,
either the call reports success and the store holds the replacement in place of the old voucher, or it
reports an error and every voucher lookup answers as before. -/
theorem replace_interrupted_leaves_store (s : Store) (g g' : Guid) (ext : Bool) (v : Bytes) (c : Cut) :
    let r := replaceVoucherCut s g g' ext v c
    (r.2 = .ok → r.1.vouchers g' = some v ∧ r.1.vouchers g = none) ∧
    (r.2 ≠ .ok → ∀ k, r.1.vouchers k = s.vouchers k) := by
  cases c with
  | none =>
    simp only [replaceVoucherCut]
    have hst := Fdo.Store.replaceVoucher_state s g g' ext v
    have hiff := Fdo.Store.replaceVoucher_ok_iff s g g' ext v
    constructor
    · intro hok
      rw [hst, if_pos hok]
      have hne := (hiff.mp hok).2.1
      simp only
      refine ⟨?_, by simp⟩
      rw [upd_other (fun h => hne h.symm)]; simp
    · intro hne k
      rw [hst, if_neg hne]
  | beforeInsert => simp [replaceVoucherCut]
  | afterInsert =>
    simp only [replaceVoucherCut]
    split
    · simp
    · rename_i hc
      simp only [not_or] at hc
      refine ⟨by simp, ?_⟩
      intro _ k
      simp only
      by_cases hk : k = g'
      · subst hk
        have : s.vouchers k = none := Option.not_isSome_iff_eq_none.mp hc.2.2
        simp [this]
      · rw [upd_other hk, upd_other hk]

open Fdo.Store in
/-- the behaviour a lost roll-back would have (seed C03-9): an error, and a second voucher in the store -/
theorem replace_without_rollback_leaves_orphan :
    let s : Store := { Store.empty with vouchers := upd Store.empty.vouchers [1] (some [7]) }
    let r := replaceVoucherCutNoRollback s [1] [2] false [8] .afterInsert
    r.2 = .error ∧ r.1.vouchers [2] = some [8] ∧ r.1.vouchers [1] = some [7] := by decide +kernel

/-- **The credential survives its blob encoding**: a device credential written to its CBOR blob and read
back is the same credential (version, device info, GUID, rendezvous info, key hash), and likewise the
voucher header the HMAC is computed over — so agreement established at handover still holds after the
device restarts from its stored credential. -/
theorem credential_blob_roundtrip (ok : Fdo.Cbor.CertOracle) (v : Fdo.Cbor.Val) (b : Bytes)
    (hl : b.length < 18446744073709551616) :
    (Fdo.Cbor.marshalS Fdo.Gen.Schemas.s_DeviceCredential v = some b →
      Fdo.Cbor.conf ok 10000 Fdo.Cbor.maxDepth Fdo.Gen.Schemas.s_DeviceCredential v = true →
      Fdo.Cbor.unmarshalS ok Fdo.Gen.Schemas.s_DeviceCredential b = some v) ∧
    (Fdo.Cbor.marshalS Fdo.Gen.Schemas.s_VoucherHeader v = some b →
      Fdo.Cbor.conf ok 10000 Fdo.Cbor.maxDepth Fdo.Gen.Schemas.s_VoucherHeader v = true →
      Fdo.Cbor.unmarshalS ok Fdo.Gen.Schemas.s_VoucherHeader b = some v) :=
  ⟨fun hm hc => Fdo.Cbor.unmarshalS_marshalS ok _ v b (by decide +kernel) (by decide +kernel) hm hc hl,
   fun hm hc => Fdo.Cbor.unmarshalS_marshalS ok _ v b (by decide +kernel) (by decide +kernel) hm hc hl⟩

end Fdo.Props.C03
