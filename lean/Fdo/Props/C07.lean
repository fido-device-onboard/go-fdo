import Fdo.Proto.TO1
import Fdo.Cbor.TypedProofs
import Fdo.Gen.Schemas
import Fdo.Facts
/-
C07 — TO1 releases the registered redirect, unmodified, only to the proven device.
-/
namespace Fdo.Props.C07
open Fdo Fdo.Proto

/-- A blob is released exactly when the token carries its payload and decodable claims, the nonce
claim equals the nonce issued in this session, the UEID claim is 0x01 ‖ GUID for a GUID with a
registration that has not expired, and the token's signature verifies under the device key of
the registered voucher; and what is released is the registered blob itself. -/
theorem rvRedirect_release_iff (store : Bytes → Option Registration) (now : Nat) (sn : Option Bytes)
    (sigOK : Bytes → Bool) (t : ProofView) (b : Bytes) :
    rvRedirect store now sn sigOK t = .release b ↔
      t.payloadPresent = true ∧
      ∃ cl n ueid reg k, t.claims = some cl ∧ sn = some n ∧ claimBytes cl 10 = some n ∧
        claimBytes cl 256 = some ueid ∧ ueid.length = 17 ∧ ueid.head? = some 1 ∧
        store ueid.tail = some reg ∧ now < reg.expiry ∧ reg.deviceKey = some k ∧ sigOK k = true ∧
        b = reg.blob := by
  constructor
  · -- every end of `rvRedirect` but one is `.reject`: `cases h` closes those and leaves the one that releases, with the
    -- guards passed on the way as hypotheses (each gives a conjunct, in order; `of_not_not`: the model writes its
    -- guards as `if ≠ then reject`)
    fun_cases rvRedirect store now sn sigOK t <;> intro h <;> cases h
    next hp cl hcl n nc h10 hn ueid h256 hl hh reg hreg k hk hs =>
      -- likewise for `lookup`: found, and not expired
      revert hreg
      fun_cases lookup store now ueid.tail <;> intro h <;> cases h
      next hst he =>
        exact ⟨by simpa using hp, cl, n, ueid, reg, k, hcl, rfl, h10.trans (congrArg some (Decidable.of_not_not hn)),
          h256, Decidable.of_not_not hl, Decidable.of_not_not hh, hst, he, hk, hs, rfl⟩
  · rintro ⟨hp, cl, n, ueid, reg, k, hcl, hsn, h10, h256, hl, hh, hst, he, hk, hs, hb⟩
    subst hsn hb
    unfold rvRedirect lookup
    simp [hp, hcl, h10, h256, hl, hh, hst, he, hk, hs]

/-- Never after expiry: once the registration of the claimed GUID has expired neither step
succeeds, whatever the token. -/
theorem never_after_expiry (store : Bytes → Option Registration) (now : Nat) (sn : Option Bytes)
    (sigOK : Bytes → Bool) (t : ProofView) (guid : Bytes)
    (hexp : ∀ r, store guid = some r → r.expiry ≤ now) :
    helloRVAck store now guid = false ∧
    (∀ cl ueid, t.claims = some cl → claimBytes cl 256 = some ueid → ueid.tail = guid →
      rvRedirect store now sn sigOK t = .reject) := by
  constructor
  · unfold helloRVAck lookup
    cases hs : store guid with
    | none => simp
    | some r => have := hexp r hs; simp; omega
  · intro cl ueid hcl h256 hg
    cases hr : rvRedirect store now sn sigOK t with
    | reject => rfl
    | release b =>
      obtain ⟨_, cl', n, ueid', reg, k, h1, _, _, h4, _, _, h7, h8, _⟩ :=
        (rvRedirect_release_iff store now sn sigOK t b).mp hr
      rw [hcl] at h1; simp at h1; subst h1
      rw [h256] at h4; simp at h4; subst h4
      rw [hg] at h7
      have := hexp reg h7
      omega

/-- A token that does not verify under the registered device key (a foreign signer, a token for
another GUID's device) never releases the blob. -/
theorem foreign_signer_rejected (store : Bytes → Option Registration) (now : Nat) (sn : Option Bytes)
    (sigOK : Bytes → Bool) (t : ProofView) (h : ∀ k, sigOK k = false) :
    rvRedirect store now sn sigOK t = .reject := by
  cases hr : rvRedirect store now sn sigOK t with
  | reject => rfl
  | release b =>
    obtain ⟨_, _, _, _, _, k, _, _, _, _, _, _, _, _, _, hs, _⟩ := (rvRedirect_release_iff store now sn sigOK t b).mp hr
    rw [h k] at hs; simp at hs

/-- A token recorded in another session (different nonce) is refused. -/
theorem replayed_token_rejected (store : Bytes → Option Registration) (now : Nat) (n : Bytes)
    (sigOK : Bytes → Bool) (t : ProofView) (cl : List (Cbor.Val × Cbor.Val)) (nc : Bytes)
    (hc : t.claims = some cl) (h10 : claimBytes cl 10 = some nc) (hne : nc ≠ n) :
    rvRedirect store now (some n) sigOK t = .reject := by
  cases hr : rvRedirect store now (some n) sigOK t with
  | reject => rfl
  | release b =>
    obtain ⟨_, cl', n', _, _, _, h1, h2, h3, _⟩ := (rvRedirect_release_iff store now (some n) sigOK t b).mp hr
    rw [hc] at h1; simp at h1; subst h1
    simp at h2; subst h2
    rw [h10] at h3; simp at h3; exact absurd h3 hne

/-- Non-vacuity: a live registration and a matching token release exactly the stored blob. -/
example :
    let guid : Bytes := List.replicate 16 7
    let store : Bytes → Option Registration := fun g => if g = guid then some ⟨[0xd2, 1], some [5], 100⟩ else none
    let t : ProofView := ⟨true, some [(Cbor.Val.int 10, Cbor.Val.any (.bytes [9, 9])), (Cbor.Val.int 256, Cbor.Val.any (.bytes (1 :: guid)))]⟩
    rvRedirect store 50 (some [9, 9]) (fun k => k == [5]) t = .release [0xd2, 1] := by
  decide +kernel


/-- **What the source does, in which order** (regenerated call-order facts of
`TO1Server.rvRedirect` / `helloRVAck`): the session nonce is fetched and compared, the registration
looked up, the device key taken from its voucher and the token verified before the blob is returned;
HelloRV looks the registration up before a nonce is stored. -/
theorem code_facts :
    Fdo.Facts.allBefore "TO1Server.rvRedirect" ["TO1ProofNonce", "Equal", "RVBlob", "DevicePublicKey", "Verify"] "Tag" = true ∧
    Fdo.Facts.before "TO1Server.rvRedirect" "DevicePublicKey" "Verify" = true ∧
    Fdo.Facts.before "TO1Server.helloRVAck" "RVBlob" "SetTO1ProofNonce" = true := by decide +kernel

/-- **The blob handed out is the blob registered, and its voucher the voucher registered**: what the
rendezvous server stores (the tagged COSE_Sign1 over `To1d`, the voucher) is, after `Marshal` into the store
and `Unmarshal` out of it, the same value — headers, payload, signature, every voucher entry — so the
owner signature the device checks is over exactly what the owner signed (C11's typed round trip on the
regenerated schemas; `conf`: within the codec's limits, header labels in encoding order). -/
theorem registered_blob_survives_storage (ok : Fdo.Cbor.CertOracle) (v : Fdo.Cbor.Val) (b : Bytes)
    (hl : b.length < 18446744073709551616) :
    (Fdo.Cbor.marshalS Fdo.Gen.Schemas.s_Sign1Tag_To1d_ v = some b →
      Fdo.Cbor.conf ok 10000 Fdo.Cbor.maxDepth Fdo.Gen.Schemas.s_Sign1Tag_To1d_ v = true →
      Fdo.Cbor.unmarshalS ok Fdo.Gen.Schemas.s_Sign1Tag_To1d_ b = some v) ∧
    (Fdo.Cbor.marshalS Fdo.Gen.Schemas.s_Voucher v = some b →
      Fdo.Cbor.conf ok 10000 Fdo.Cbor.maxDepth Fdo.Gen.Schemas.s_Voucher v = true →
      Fdo.Cbor.unmarshalS ok Fdo.Gen.Schemas.s_Voucher b = some v) :=
  ⟨fun hm hc => Fdo.Cbor.unmarshalS_marshalS ok _ v b (by decide +kernel) (by decide +kernel) hm hc hl,
   fun hm hc => Fdo.Cbor.unmarshalS_marshalS ok _ v b (by decide +kernel) (by decide +kernel) hm hc hl⟩

end Fdo.Props.C07
