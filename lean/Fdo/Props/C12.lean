import Fdo.Cbor.TypedLimit
import Fdo.Gen.Cbor
/-
C12 — CBOR decoding of arbitrary bytes is total, bounded and exact.
-/
namespace Fdo.Props.C12
open Fdo Fdo.Cbor

/-- Exact consumption: whenever one item is decoded from `b` leaving `r`, `b` is a prefix
`p` followed by exactly `r`, `p` is non-empty, and `p` alone decodes to the same item with
nothing left.  (Totality — a value or an error for every input — is what Lean's
acceptance of `decode` as a total function already states.) -/
theorem decode_consumes_exactly (f d : Nat) (b : Bytes) (v : Item) (r : Bytes)
    (h : decode f d b = some (v, r)) :
    ∃ p, b = p ++ r ∧ 1 ≤ p.length ∧ decode f d p = some (v, []) :=
  Cbor.decode_split f d b v r h

/-- What follows an item never influences how the item is read. -/
theorem decode_ignores_suffix (f d : Nat) (b t : Bytes) (v : Item) (r : Bytes)
    (h : decode f d b = some (v, r)) : decode f d (b ++ t) = some (v, r ++ t) :=
  Cbor.decode_append f d b t v r h

/-- Whole-buffer decoding never succeeds with bytes left over. -/
theorem unmarshal_no_trailing (b : Bytes) (v : Item) (h : unmarshalRaw b = some v) :
    decode1 b = some (v, []) := by
  revert h
  fun_cases unmarshalRaw b <;> intro h <;> cases h
  assumption

/-- **Totality is not an artefact of the model's fuel.** The model recurses on a fuel argument and
answers `error` when it runs out; `decode1` (what the driver and `unmarshalRaw` use) supplies
2·length + 1. Whatever *any* amount of fuel decodes, `decode1` decodes to the same item with the same
rest — so an `error` of the model is never "out of fuel", and the real decoder's success on an input
cannot be misrepresented as a rejection for that reason. -/
theorem fuel_never_decides (f : Nat) (b : Bytes) (v : Item) (r : Bytes)
    (h : decode f maxDepth b = some (v, r)) : decode1 b = some (v, r) :=
  Cbor.decode1_complete f b v r h

/-- **Declared lengths at or above the limit are rejected**, whatever follows the head: a byte
string, text string, array or map whose head declares `maxLen` (= MaxArrayDecodeLength) or more
bytes / items / pairs is never decoded — in particular not a map declaring 2⁶³ pairs, whose doubled
item count wraps around to 0 in 64-bit arithmetic (accepted as an empty map by the tree as found;
repaired). -/
theorem over_limit_rejected (f d : Nat) (b : Bytes) (mt ai arg : Nat) (r : Bytes)
    (hh : decHead b = some (mt, ai, arg, r)) (hmt : mt = 2 ∨ mt = 3 ∨ mt = 4 ∨ mt = 5) (hlen : maxLen ≤ arg) :
    decode f d b = none :=
  (decode_reads f d).over_limit hh (by omega) hlen

/-- the instance that was accepted before the repair: a map head declaring 2⁶³ pairs -/
example : decode1 [0xbb, 0x80, 0, 0, 0, 0, 0, 0, 0] = none :=
  over_limit_rejected _ _ _ 5 27 (2 ^ 63) [] (by decide) (by decide) (by decide)

/-! ### memory: what is built is paid for by bytes actually read -/

/-- **The decoded value is bounded by the input consumed, not by what the input claims**: its
footprint (one unit per item, one per string byte) plus the unread rest never exceeds the input
length. A decoder that allocates as data arrives (the repaired policy: `decodeByteSlice`, `Grow` per
element) therefore needs memory linear in the bytes read; the constant per unit is the Go runtime's
(measured by the allocation counters of the correspondence run, not proved). -/
theorem decoded_value_paid_for_by_input (f d : Nat) (b : Bytes) (v : Item) (r : Bytes)
    (h : decode f d b = some (v, r)) : v.footprint + r.length ≤ b.length :=
  decode_footprint f d b v r h

/-- An array of `n` items / a map of `n` pairs that decodes was followed by at least `n` / `2n`
bytes. -/
theorem container_count_backed_by_bytes (f d : Nat) (b : Bytes) (r : Bytes) :
    (∀ xs, decode f d b = some (.arr xs, r) → xs.length + r.length < b.length) ∧
    (∀ ps, decode f d b = some (.map ps, r) → 2 * ps.length + r.length < b.length) := by
  constructor
  · intro xs h
    have h1 := decode_footprint f d b _ r h
    have := Items.length_le_footprint xs
    simp only [Item.footprint] at h1; omega
  · intro ps h
    have h1 := decode_footprint f d b _ r h
    have := Pairs.length_le_footprint ps
    simp only [Item.footprint] at h1; omega

/-- **A length that the remaining input cannot back is rejected**, below the limit too: a string head
announcing more bytes, an array head announcing more items, or a map head announcing more than half
as many pairs as there are bytes left never decodes — whatever those bytes are. -/
theorem unbacked_claim_rejected (f d : Nat) (b : Bytes) (mt ai arg : Nat) (r0 : Bytes)
    (hh : decHead b = some (mt, ai, arg, r0))
    (hc : (mt = 2 ∨ mt = 3 ∨ mt = 4) ∧ r0.length < arg ∨ mt = 5 ∧ r0.length < 2 * arg) :
    decode f d b = none := by
  cases hdec : decode f d b with
  | none => rfl
  | some q =>
    obtain ⟨v, r1⟩ := q
    match f with
    | 0 => simp [decode] at hdec
    | f+1 =>
      obtain ⟨_, hd, st⟩ := decode_succ_eq_some.1 hdec
      cases hh.symm.trans hd
      -- the major type picks the `DecStep`: byte string, text string, array, map, in this order
      rcases hc with ⟨rfl | rfl | rfl, hl⟩ | ⟨rfl, hl⟩ <;> cases st
      · simp only [List.length_append] at hl; omega
      · simp only [List.length_append] at hl; omega
      next hi =>
        have := decodeItems_footprint _ _ _ _ _ _ hi
        have := decodeItems_length _ _ _ _ _ _ hi
        have := Items.length_le_footprint ‹_›
        omega
      next hi =>
        have := decodePairs_footprint _ _ _ _ _ _ hi
        have := decodePairs_length _ _ _ _ _ _ hi
        have := Pairs.length_le_footprint ‹_›
        omega

/-- the shape of the seeded and original allocation defects: ten bytes claiming 99 999 nested arrays
of 99 999 items are rejected, and nothing of that size is ever built -/
example : decode1 [0x9a, 0x00, 0x01, 0x86, 0x9f, 0x9a, 0x00, 0x01, 0x86, 0x9f] = none :=
  unbacked_claim_rejected _ _ _ 4 26 99999 [0x9a, 0x00, 0x01, 0x86, 0x9f] (by decide) (Or.inl ⟨by simp, by decide⟩)

/-- **Reserved and indefinite-length heads are refused** wherever an item is expected: a first byte
whose additional info is 28..30 (reserved) or 31 (indefinite length, break) never starts an accepted
item, whatever follows. (Before repair cd51579 the structural decoder read such a head as argument 0
while `Decoder.unwrap` read the info value as a length, so the two disagreed on where the item ends.) -/
theorem reserved_heads_rejected (f d : Nat) (x : UInt8) (t : Bytes) (h : x.toNat % 32 ≥ 28) :
    decode f d (x :: t) = none := by
  cases f with
  | zero => simp [decode]
  | succ f => simp [decode, decHead_reserved h]

/-- the same for a byte-wrapped target (`Bstr`, `ByteWrap`, certificates), which reads its head through
`Decoder.unwrap` -/
theorem reserved_heads_rejected_unwrap (x : UInt8) (t : Bytes) (h : x.toNat % 32 ≥ 28) :
    unwrapBytes (x :: t) = none := by
  simp [unwrapBytes, decHead_reserved h]

/-- the input on which the two decoders disagreed: 0x5c followed by 28 bytes -/
example (t : Bytes) : decode1 (0x5c :: t) = none ∧ unwrapBytes (0x5c :: t) = none :=
  ⟨reserved_heads_rejected _ _ _ _ (by decide), reserved_heads_rejected_unwrap _ _ (by decide)⟩

/-! ### every decode target -/

/-- **Exact consumption for every decode target**: whatever Go type is decoded into (any schema of the
typed model — integers, strings, slices, structs with omitted fields, pointers, maps, `any`, tags, byte-
wrapped values, raw bytes, certificates, timestamps, COSE headers and keys, …), the stream is left at a
position inside the input: what remains is the input without a prefix. Nothing is re-read, skipped ahead
of, or invented. -/
theorem typed_decode_consumes_prefix (ok : CertOracle) (f d : Nat) (s : Schema) (b : Bytes) (v : Val) (r : Bytes)
    (h : decodeS ok f d s b = some (v, r)) : ∃ p, b = p ++ r :=
  (decodeS_reads ok f d s).suf h

/-- **No decode target looks past the item it reads**: appending anything behind the input changes the
decoded value of no target and nothing but the rest that is handed back — for every schema constructor,
through pointers, wrappers, raw passes, COSE headers and `interface{}` values alike. -/
theorem typed_decode_ignores_suffix (ok : CertOracle) (f d : Nat) (s : Schema) (b t : Bytes) (v : Val) (r : Bytes)
    (h : decodeS ok f d s b = some (v, r)) : decodeS ok f d s (b ++ t) = some (v, r ++ t) :=
  (decodeS_reads ok f d s).append h t

/-- **What a decode target returns is a function of the bytes it consumed**: the input splits into the consumed
prefix `p` and the rest; `p` alone decodes to the same value with nothing left, and `p` followed by anything else
decodes to the same value leaving exactly that. (The typed twin of `decode_consumes_exactly`.) -/
theorem typed_decode_depends_on_consumed_prefix_only (ok : CertOracle) (f d : Nat) (s : Schema) (b : Bytes) (v : Val) (r : Bytes)
    (h : decodeS ok f d s b = some (v, r)) :
    ∃ p, b = p ++ r ∧ decodeS ok f d s p = some (v, []) ∧ ∀ t, decodeS ok f d s (p ++ t) = some (v, t) := by
  obtain ⟨_, p, hp, hd⟩ := decodeS_reads ok f d s b v r h
  exact ⟨p, hp, by simpa using hd [], hd⟩

/-- Whole-buffer decoding into any type never succeeds with bytes left over. -/
theorem typed_unmarshal_no_trailing (ok : CertOracle) (s : Schema) (b : Bytes) (v : Val) (h : unmarshalS ok s b = some v) :
    decodeS ok (2 * b.length + 64) maxDepth s b = some (v, []) := by
  revert h
  fun_cases unmarshalS ok s b <;> intro h <;> cases h
  assumption

/-- **Declared lengths at or above the limit are rejected by every decode target that checks it** — every
target except the four that read their head through `Decoder.unwrap` (`Schema.limitChecked`): whatever
follows the head, and even if all the declared bytes or items are really there. -/
theorem typed_over_limit_rejected (ok : CertOracle) (f d : Nat) (s : Schema) (b : Bytes) (mt ai arg : Nat) (r : Bytes)
    (hd : decHead b = some (mt, ai, arg, r)) (hmt : 2 ≤ mt ∧ mt ≤ 5) (harg : arg ≥ maxLen)
    (hs : s.limitChecked = true) : decodeS ok f d s b = none :=
  decodeS_over_limit ok f d s b mt ai arg r hd hmt harg hs

/-- The excluded targets, stated rather than hidden: `ByteWrap[[]byte]` (and likewise `Bstr[T]`,
`ByteWrap[T]`, the X.509 wrappers) accepts a byte string of any declared length whose bytes are all
present — the limit of `MaxArrayDecodeLength` "for a string or byte slice" is not applied on this path.
Run on the implementation: a 200 000-byte string decodes into `ByteWrap[[]byte]` and is refused by
`[]byte` and `RawBytes`. Within the property's quantifier (inputs up to 64 KiB) such a string can only be
*declared*, never delivered, and is refused for lack of bytes after reading at most the input
(`typed_decode_consumes_prefix`, allocation oracle), so this is recorded as an observation, not a finding. -/
theorem unwrap_targets_do_not_check_limit (ok : CertOracle) (f d n : Nat) (r : Bytes) (hn : n < 18446744073709551616)
    (hl : n ≤ r.length) :
    decodeS ok (f + 1) d .wrapBytes (encHead 2 n ++ r) = some (.bytes (r.take n), r.drop n) := by
  simp [decodeS, unwrapBytes_encHead r hn]; omega

/-! ### what is consumed is one well-formed item

`WFN n b r` (`Cbor/WellFormed.lean`) is RFC 8949's grammar of definite-length items stated without any
decoder, limit or fuel: `b` is `n` items followed by `r`. -/

/-- **What the structural decoder accepts is one well-formed item**, and the stream is left right behind it. -/
theorem accepted_is_one_well_formed_item (f d : Nat) (b : Bytes) (v : Item) (r : Bytes)
    (h : decode f d b = some (v, r)) : WF1 b r := decode_wf f d b v r h

/-- **The same for every decode target**: whatever Go type is decoded into, what the decoder consumed is
exactly one well-formed item — never part of one, never one and a bit of the next (as `ByteWrap` did
for the head 0x5c before cd51579, and `Bstr[T]` for a string longer than its content before 0388949). -/
theorem typed_accepted_is_one_well_formed_item (ok : CertOracle) (f d : Nat) (s : Schema) (b : Bytes) (v : Val) (r : Bytes)
    (h : decodeS ok f d s b = some (v, r)) : WF1 b r := decodeS_wf ok f d s b v r h

/-- **"The next item" is well defined**: bytes cannot be split into an item and a rest in two ways. -/
theorem item_boundary_unique (b r r' : Bytes) (h1 : WF1 b r) (h2 : WF1 b r') : r = r' := h1.unique h2

/-- **All decoders agree on where an item ends**: two decode targets (two Go types, or a Go type and
`RawBytes`) that both accept the same stream leave it at the same position. -/
theorem decoders_agree_on_item_end (ok : CertOracle) (f d f' d' : Nat) (s s' : Schema) (b : Bytes) (v v' : Val) (r r' : Bytes)
    (h1 : decodeS ok f d s b = some (v, r)) (h2 : decodeS ok f' d' s' b = some (v', r')) : r = r' :=
  (decodeS_wf ok f d s b v r h1).unique (decodeS_wf ok f' d' s' b v' r' h2)

theorem typed_and_structural_agree_on_item_end (ok : CertOracle) (f d f' d' : Nat) (s : Schema) (b : Bytes) (v : Val) (x : Item)
    (r r' : Bytes) (h1 : decodeS ok f d s b = some (v, r)) (h2 : decode f' d' b = some (x, r')) : r = r' :=
  (decodeS_wf ok f d s b v r h1).unique (decode_wf f' d' b x r' h2)

/-- **A well-formed item within the documented limits is consumed exactly** — the clause of the property as
it stands: if the stream starts with an item of the grammar in which no string is `maxLen` bytes or longer,
no array has `maxLen` items or more, no map `maxLen/2` pairs or more and containers nest at most `maxDepth`
deep (`WFL maxDepth 1 b r`), the decoder succeeds and leaves exactly what follows the item. -/
theorem well_formed_item_consumed_exactly (b r : Bytes) (h : WFL maxDepth 1 b r) : ∃ v, decode1 b = some (v, r) :=
  (decode1_iff_wfl b r).2 h

/-- **The structural decoder is characterised by the grammar with limits**: it accepts the items of
`well_formed_item_consumed_exactly` and nothing else. -/
theorem accepts_exactly_the_well_formed_within_limits (b r : Bytes) :
    (∃ v, decode1 b = some (v, r)) ↔ WFL maxDepth 1 b r := decode1_iff_wfl b r

/-- the grammar with limits is the grammar, restricted -/
theorem within_limits_is_well_formed (d n : Nat) (b r : Bytes) (h : WFL d n b r) : WFN n b r := h.wfn

example (t : Bytes) : WFL maxDepth 1 ([0x82, 0x01, 0x41, 0x00] ++ t) t :=
  .arr (d := 63) (ai := 2) (arg := 2) (r := [0x01, 0x41, 0x00] ++ t) (r1 := t) (by simp [decHead]) (by decide)
    (.scalar (mt := 0) (ai := 1) (arg := 1) (r := [0x41, 0x00] ++ t) (by simp [decHead]) (by omega)
      (.str (mt := 2) (ai := 1) (arg := 1) (r := [0x00] ++ t) (by simp [decHead]) (by omega) (by decide) (by simp) (by simpa using .zero)))
    .zero

/-- the grammar is not empty: `[1, h'00']` followed by anything is one item followed by that -/
example (t : Bytes) : WF1 ([0x82, 0x01, 0x41, 0x00] ++ t) t :=
  .arr (ai := 2) (arg := 2) (r := [0x01, 0x41, 0x00] ++ t) (by simp [decHead])
    (.scalar (mt := 0) (ai := 1) (arg := 1) (r := [0x41, 0x00] ++ t) (by simp [decHead]) (by omega)
      (.str (mt := 2) (ai := 1) (arg := 1) (r := [0x00] ++ t) (by simp [decHead]) (by omega) (by simp) (by simpa using .zero)))

/-- and it refuses what is not an item: a two-element array with one element -/
example : ¬ WF1 [0x82, 0x01] [] := by
  intro h
  cases h with
  | arr hd t =>
    cases hd
    cases t with
    | scalar hd2 _ t2 => cases hd2; cases t2 <;> rename_i hd3 _ <;> cases hd3
    | str hd2 hm2 _ _ => cases hd2; exact absurd hm2 (by decide)
    | arr hd2 _ | map hd2 _ | tag hd2 _ => cases hd2
  | scalar hd hm _ | str hd hm _ _ => cases hd; exact absurd hm (by decide)
  | map hd _ | tag hd _ => cases hd

/-- The model's length limit is the constant the code was compiled with (regenerated table). -/
theorem gen_maxLen_eq : Fdo.Gen.Cbor.maxArrayDecodeLength = maxLen := by decide

/-- Likewise the nesting bound. -/
theorem gen_maxDepth_eq : Fdo.Gen.Cbor.maxNestingDepth = maxDepth := by decide

end Fdo.Props.C12
