import Fdo.Proto.ServerProofs
import Fdo.Proto.ServerGrammar
import Fdo.Facts
import Fdo.Gen.Handler
import Fdo.Gen.Proto
/-
C08 — server effects happen only through in-order, session-bound message sequences.

All statements are about `Fdo.Proto.Server.step`, the request-level model of
http.Handler.ServeHTTP + the four responders, for the state reached by ANY history of requests
(`stateAfter (init …) history`) and ANY next request.
-/
namespace Fdo.Props.C08
open Fdo.Proto.Server

/-- **Effects are session-bound and in order.** After any history, if the next request causes an
effect (DI voucher stored, rendezvous blob stored, owner module invoked, voucher replaced) then the
request is not a protocol start, it carries the token of a session that is live and of the request's
protocol, the effect is attributed to that very session, and that session has answered, in this
order, the protocol's earlier messages (`Needs`): 10 before a voucher is stored by 12; 20 before a
blob is stored by 22 (whose nonce is that session's); 60, 64, 66, 68 before an owner module runs in
68; 60, 64, 66 before 70 replaces a voucher. -/
theorem effects_session_bound_in_order (v : List Nat) (reuse : Bool) (m : Nat) (history : List Req) (r : Req) :
    let st := stateAfter (init v reuse m) history
    ∀ e ∈ (step st r).2.2, ∃ k s, r.tok = .sess k ∧ st.sessions[k]? = some s ∧ s.live = true ∧
      some s.proto = protoOf r.typ ∧ isStart r.typ = false ∧ Needs e r k s.hist :=
  step_effects (stateAfter_inv (init_inv v reuse m) history) r

/-- **No live token of the right protocol, no service.** A request that is not a protocol start
and carries no token, a token the store never issued, a token of a finished or failed session, or a
token of another protocol's session is answered by an error message, causes no effect and leaves
vouchers and blobs untouched — whatever its content. -/
theorem no_live_token_no_service (st : State) (r : Req) (h255 : r.typ ≠ 255) (hst : isStart r.typ = false)
    (htok : ∀ k s, r.tok = .sess k → st.sessions[k]? = some s → s.live = false ∨ some s.proto ≠ protoOf r.typ) :
    (step st r).2 = (255, []) ∧ (step st r).1.vouchers = st.vouchers ∧ (step st r).1.blobs = st.blobs := by
  rcases step_served_or st r with ⟨k, s, _, _, _, h⟩ | ⟨_, resp, hstep, hresp⟩
  · rcases htok k s h.tok h.get with hl | hp
    · exact nomatch h.live.symm.trans hl
    · exact absurd h.proto.symm hp
  · rw [hstep]
    rcases hresp with rfl | ⟨h, _⟩ | ⟨h, _⟩
    · exact ⟨rfl, rfl, rfl⟩
    · exact absurd h h255
    · exact nomatch hst.symm.trans h

/-- **The token dies with the protocol run.** If a request of any message type of the four protocols
(or an error message, 255) carried a session's token and was answered by an error, by the
protocol's final message (13, 23, 33, 71), or was itself an error message, the session is not live
afterwards. -/
theorem token_dead_after_end (st : State) (r : Req) (k : Nat) (s : Sess)
    (htok : r.tok = .sess k) (hs : st.sessions[k]? = some s) (hst : isStart r.typ = false)
    (hknown : protoOf r.typ ≠ none ∨ r.typ = 255)
    (hend : (step st r).2.1 = 255 ∨ final (step st r).2.1 = true ∨ r.typ = 255) :
    ∃ s', (step st r).1.sessions[k]? = some s' ∧ s'.live = false := by
  have hk : k < st.sessions.length := lt_of_get hs
  have sp := step_spec st r
  generalize step st r = res at sp hend
  cases sp with
  | errMsg _ =>
    refine ⟨dead s, ?_, rfl⟩
    show (killTok st.sessions r.tok)[k]? = _
    rw [killTok_get, htok, hs]; simp
  | unknown h1 h2 =>
    rcases hknown with h | h
    · exact absurd h2 h
    · exact absurd h h1
  | startOk _ _ _ _ _ _ h _ => rw [hst] at h; cases h
  | startErr _ _ _ h _ => rw [hst] at h; cases h
  | served p k' s0 s' resp eff h255 _ _ ht hs0 _ _ hh =>
    rw [htok] at ht; cases ht
    have hr := handle_resp hh
    refine ⟨finish s' r.typ resp, ?_, ?_⟩
    · show (applyEffs _ eff).sessions[k]? = _
      rw [applyEffs_sessions]; exact List.getElem?_set_self hk
    · rcases hend with h | h | h
      · have := handle_request_type hh
        simp only at h; omega
      · simp [finish, h]
      · exact absurd h h255
  | rejected p k' s0 _ _ _ ht hs0 _ _ =>
    rw [htok] at ht; cases ht
    exact ⟨dead s0, List.getElem?_set_self hk, rfl⟩
  | noSession p _ _ _ hno => exact ⟨s, hs, hno k s htok hs⟩

/-- **Dead stays dead.** No request revives a session. -/
theorem dead_stays_dead (st : State) (r : Req) (k : Nat) (s : Sess)
    (hs : st.sessions[k]? = some s) (hd : s.live = false) :
    ∃ s', (step st r).1.sessions[k]? = some s' ∧ s'.live = false := by
  rcases step_slot r hs with h | ⟨_, _, h | ⟨_, _, _, h⟩⟩
  · exact ⟨s, h, hd⟩
  · exact ⟨_, h, rfl⟩
  · exact nomatch h.live.symm.trans hd

/-- … over any number of further requests. -/
theorem dead_stays_dead_history (st : State) (rs : List Req) (k : Nat) (s : Sess)
    (hs : st.sessions[k]? = some s) (hd : s.live = false) :
    ∃ s', (stateAfter st rs).sessions[k]? = some s' ∧ s'.live = false :=
  stateAfter_ind (P := fun st => ∃ s', st.sessions[k]? = some s' ∧ s'.live = false) ⟨s, hs, hd⟩
    (fun st ⟨s1, h1, d1⟩ q _ => dead_stays_dead st q k s1 h1 d1)

/-- **After the end the token grants nothing, ever.** Once a session has ended, every later
non-start request carrying its token — after any number of other requests — gets an error and
causes no effect. -/
theorem ended_token_grants_nothing (st : State) (rs : List Req) (r : Req) (k : Nat) (s : Sess)
    (hs : st.sessions[k]? = some s) (hd : s.live = false)
    (htok : r.tok = .sess k) (h255 : r.typ ≠ 255) (hst : isStart r.typ = false) :
    (step (stateAfter st rs) r).2 = (255, []) := by
  obtain ⟨s', hs', hd'⟩ := dead_stays_dead_history st rs k s hs hd
  refine (no_live_token_no_service _ r h255 hst ?_).1
  intro k' s'' ht hs''
  rw [htok] at ht; cases ht
  rw [hs'] at hs''; cases hs''
  exact Or.inl hd'

/-- **A rendezvous blob is stored only by the session whose nonce the OwnerSign carries, while it
is live.** After any history, an OwnerSign that carries the nonce issued in session `j` stores
nothing when it arrives under no token, under another session's token, or after session `j` has
ended. (`Req.nonceOf` is the model's view of the signed to0d: which session's NonceTO0Sign it holds.) -/
theorem owner_sign_only_in_its_own_live_session (v : List Nat) (reuse : Bool) (m : Nat) (history : List Req)
    (r : Req) (j : Nat) (hn : r.nonceOf = some j) :
    let st := stateAfter (init v reuse m) history
    (r.tok ≠ .sess j ∨ ∀ s, st.sessions[j]? = some s → s.live = false) →
    ∀ e ∈ (step st r).2.2, ∀ k d, e ≠ .setBlob k d := by
  intro st hcase e he k d hed
  obtain ⟨k', s, htok, hs, hl, _, _, hneeds⟩ := effects_session_bound_in_order v reuse m history r e he
  subst hed
  obtain ⟨_, _, _, hk⟩ : k = k' ∧ r.typ = 22 ∧ List.Sublist [20] s.hist ∧ r.nonceOf = some k' := hneeds
  rw [hn] at hk
  cases hk
  rcases hcase with h | h
  · exact h htok
  · have := h s hs
    rw [hl] at this; cases this

/-- **A replayed OwnerSign stores nothing.** Once session `j` has answered an OwnerSign with
AcceptOwner (23), the same signed bytes — any request carrying session `j`'s nonce — sent again,
after any further traffic, under any token whatsoever (none, the finished one, a new session's),
store no rendezvous blob. -/
theorem replayed_owner_sign_stores_nothing (v : List Nat) (reuse : Bool) (m : Nat) (before later : List Req)
    (q r : Req) (j : Nat) (s : Sess)
    (hq : q.tok = .sess j) (hqs : (stateAfter (init v reuse m) before).sessions[j]? = some s)
    (hq22 : q.typ = 22) (hacc : (step (stateAfter (init v reuse m) before) q).2.1 = 23)
    (hn : r.nonceOf = some j) :
    ∀ e ∈ (step (stateAfter (step (stateAfter (init v reuse m) before) q).1 later) r).2.2, ∀ k d, e ≠ .setBlob k d := by
  have hst : isStart q.typ = false := by rw [hq22]; decide
  have hknown : protoOf q.typ ≠ none ∨ q.typ = 255 := by rw [hq22]; exact Or.inl (by decide)
  obtain ⟨s1, hs1, hd1⟩ := token_dead_after_end _ q j s hq hqs hst hknown (Or.inr (Or.inl (by rw [hacc]; decide)))
  obtain ⟨s2, hs2, hd2⟩ := dead_stays_dead_history _ later j s1 hs1 hd1
  have heq : stateAfter (step (stateAfter (init v reuse m) before) q).1 later
      = stateAfter (init v reuse m) (before ++ q :: later) := by
    rw [stateAfter_append, stateAfter_cons]
  rw [heq] at hs2 ⊢
  refine owner_sign_only_in_its_own_live_session v reuse m (before ++ q :: later) r j hn (Or.inr ?_)
  intro s' hs'
  rw [hs2] at hs'; cases hs'; exact hd2

/-- **Sessions do not interfere.** A request changes no session other than the one its token
names (a protocol start changes none and adds one). (`h255` is not needed: `hne` implies it.) -/
theorem other_sessions_untouched (st : State) (r : Req) (j : Nat) (hj : j < st.sessions.length)
    (hne : r.tok ≠ .sess j ∨ isStart r.typ = true) (h255 : r.typ ≠ 255 ∨ r.tok ≠ .sess j) :
    (step st r).1.sessions[j]? = st.sessions[j]? := by
  obtain ⟨s, hs⟩ : ∃ s, st.sessions[j]? = some s := ⟨_, List.getElem?_eq_getElem hj⟩
  rcases step_slot r hs with h | ⟨htok, hst, _⟩
  · exact h.trans hs.symm
  · rcases hne with h | h
    · exact absurd htok h
    · exact nomatch hst.symm.trans h

/-- A protocol start ignores whatever token it carries: it is answered in a fresh session. -/
theorem start_makes_new_session (st : State) (r : Req) (hst : isStart r.typ = true) :
    (step st r).1.sessions.length = st.sessions.length + 1 := by
  have h255 : r.typ ≠ 255 := by intro h; rw [h] at hst; simp [isStart] at hst
  have sp := step_spec st r
  generalize step st r = res at sp
  cases sp with
  | errMsg h => exact absurd h h255
  | unknown _ h => 
    rcases isStart_iff.mp hst with h' | h' | h' | h' <;> rw [h'] at h <;> cases h
  | startOk p s' resp eff _ _ _ _ =>
    show (applyEffs _ eff).sessions.length = _
    rw [applyEffs_sessions]; simp
  | startErr p _ _ _ _ => simp
  | served _ _ _ _ _ _ _ _ h _ _ _ _ _ => rw [hst] at h; cases h
  | rejected _ _ _ _ _ h _ _ _ _ => rw [hst] at h; cases h
  | noSession _ _ _ h _ => rw [hst] at h; cases h



/-- **Every session follows its protocol's order, completely.** After any history of requests —
honest, replayed, adversarial, under any tokens, interleaved in any way — the requests a session has
answered (its `hist`) form a word of its protocol's automaton (`scan`): DI `10 12`, TO0 `20 22`, TO1
`30 32`, TO2 `60 62* 64 (62|66|68)* 70`, each possibly cut short, never out of order, never with a
step repeated that the protocol has once, and a session that answered its final message is not live. -/
theorem history_is_a_protocol_word (v : List Nat) (reuse : Bool) (m : Nat) (history : List Req) (k : Nat) (s : Sess)
    (hs : (stateAfter (init v reuse m) history).sessions[k]? = some s) :
    ∃ ph, runAuto s.proto s.hist = some ph ∧ (ph = 3 → s.live = false) := by
  rcases (stateAfter_invH (init_all _ v reuse m) history k s hs).word with h | ⟨h, hd⟩
  · exact ⟨_, h, fun h3 => absurd (h3 ▸ phase_le s) (by decide)⟩
  · exact ⟨3, h, fun _ => hd⟩

/-- **The model's tables are the handler's.** The tables regenerated from the go-fdo sources on every check, conjunct by
conjunct (1, 2 and 6 against the model's functions `isStart`, `final`, `protoOf`; 3, 4 and 5 against the literal values the
model's `step` and handlers are written with, which is checked by reading): the message types for which `ServeHTTP`, run with recording stubs,
issued a new token are those of `isStart`; the response types after which it invalidated the token are those
of `final`; it invalidated the token when the responder answered with an error (the rejecting cases of
`step`); of the request types the `Respond` methods dispatch on, those whose body went through `Decrypt`
are 66, 68 and 70, the handlers that ask `decrypts`; the request → response dispatch read from server.go is
the twelve request types `handle` answers (`handle_request_type`), each by its type + 1 (`handle_resp`);
and `protocol.Of`, executed on every message type, is `protoOf` (0 unknown or 5 any/error where `protoOf`
is `none`). A change of any of these in the source changes the generated file and breaks this theorem. -/
theorem model_tables_are_the_handlers :
    ((List.range 256).all fun t => isStart t == Fdo.Gen.Handler.startTypes.contains t) = true ∧
    ((List.range 256).all fun t => final t == Fdo.Gen.Handler.finalResponses.contains t) = true ∧
    Fdo.Gen.Handler.errorInvalidates = true ∧
    ((Fdo.Gen.Handler.respondTable.map (·.2.1)).all fun t =>
      (Fdo.Gen.Handler.decryptTypes.contains t == (t == 66 || t == 68 || t == 70))) = true ∧
    (Fdo.Gen.Handler.respondTable.map fun r => (r.2.1, r.2.2.1)) =
      [(10, 11), (12, 13), (20, 21), (22, 23), (30, 31), (32, 33), (60, 61), (62, 63), (64, 65), (66, 67), (68, 69), (70, 71)] ∧
    ((List.range 256).all fun t => match protoOf t with
      | some .di => Fdo.Gen.Proto.protocolOf[t]? == some 1
      | some .to0 => Fdo.Gen.Proto.protocolOf[t]? == some 2
      | some .to1 => Fdo.Gen.Proto.protocolOf[t]? == some 3
      | some .to2 => Fdo.Gen.Proto.protocolOf[t]? == some 4
      | none => (Fdo.Gen.Proto.protocolOf[t]? == some 0 || Fdo.Gen.Proto.protocolOf[t]? == some 5)) = true := by
  refine ⟨by decide +kernel, by decide +kernel, rfl, by decide +kernel, by decide +kernel, ?_⟩
  -- the whole table in one pass; a lookup `protocolOf[t]?` per message type is quadratic for the kernel
  have hP : Fdo.Gen.Proto.protocolOf = (List.range 256).map fun t =>
      match protoOf t with
      | some .di => 1 | some .to0 => 2 | some .to1 => 3 | some .to2 => 4
      | none => if t = 255 then 5 else 0 := by decide +kernel
  rw [List.all_eq_true]
  intro t ht
  rw [hP, List.getElem?_map, List.getElem?_range (List.mem_range.mp ht)]
  simp only [Option.map_some]
  generalize protoOf t = p
  match p with
  | some .di | some .to0 | some .to1 | some .to2 => rfl
  | none => by_cases h : t = 255 <;> simp [h]

/-! Non-vacuity: a history in which every effect occurs, and the known weak point (Done accepted
straight after DeviceServiceInfoReady) as it stands in the code. -/

def honestTO2 : List Req := [
  { tok := .none, typ := 60, dev := 1 },
  { tok := .sess 0, typ := 62 },
  { tok := .sess 0, typ := 64, dev := 1, nonceOf := some 0, signer := some 1, xb := 7 },
  { tok := .sess 0, typ := 66, enc := some (0, 7), hmac := true },
  { tok := .sess 0, typ := 68, enc := some (0, 7), dm := true },
  { tok := .sess 0, typ := 68, enc := some (0, 7) },
  { tok := .sess 0, typ := 68, enc := some (0, 7) },
  { tok := .sess 0, typ := 70, enc := some (0, 7), nonceOf := some 0 } ]

example : (run (init [1] false 2) honestTO2).2 =
    [(61, []), (63, []), (65, []), (67, []), (69, []), (69, [.ownerModule 0]), (69, [.ownerModule 0]),
     (71, [.replaceVoucher 0 1])] := by decide +kernel

example : (run (init [1] false 2) [
    { tok := .none, typ := 10 }, { tok := .sess 0, typ := 12 },
    { tok := .none, typ := 20 }, { tok := .sess 1, typ := 22, dev := 1, nonceOf := some 1, signer := some 1 },
    { tok := .sess 0, typ := 12 }, { tok := .sess 1, typ := 22, dev := 1, nonceOf := some 1, signer := some 1 }]).2 =
    [(11, []), (13, [.addVoucher 0]), (21, []), (23, [.setBlob 1 1]), (255, []), (255, [])] := by decide +kernel

/-- the replay theorems' premises are met by a run, and the replays (no token, the finished token,
a new TO0 session's token) store nothing -/
example : (run (init [1] false 2) [
    { tok := .none, typ := 20 }, { tok := .sess 0, typ := 22, dev := 1, nonceOf := some 0, signer := some 1 },
    { tok := .none, typ := 22, dev := 1, nonceOf := some 0, signer := some 1 },
    { tok := .sess 0, typ := 22, dev := 1, nonceOf := some 0, signer := some 1 },
    { tok := .none, typ := 20 }, { tok := .sess 1, typ := 22, dev := 1, nonceOf := some 0, signer := some 1 }]).2 =
    [(21, []), (23, [.setBlob 0 1]), (255, []), (255, []), (21, []), (255, [])] := by decide +kernel

/-- the code as it stands: Done straight after 66 replaces the voucher (recorded finding) -/
example : (run (init [1] false 2) [
    { tok := .none, typ := 60, dev := 1 },
    { tok := .sess 0, typ := 64, dev := 1, nonceOf := some 0, signer := some 1, xb := 7 },
    { tok := .sess 0, typ := 66, enc := some (0, 7), hmac := true },
    { tok := .sess 0, typ := 70, enc := some (0, 7), nonceOf := some 0 }]).2 =
    [(61, []), (65, []), (67, []), (71, [.replaceVoucher 0 1])] := by decide +kernel


/-- **What the source does, in which order** (regenerated call-order facts): every effect is
preceded, in the function that causes it, by the reads of the session values that only the
protocol's earlier messages store, and by the comparisons with them. -/
theorem code_facts :
    Fdo.Facts.allBefore "DIServer.diDone" ["IncompleteVoucherHeader", "DeviceCertChain"] "AddVoucher" = true ∧
    Fdo.Facts.allBefore "TO0Server.acceptOwner" ["VerifyEntries", "TO0SignNonce", "Equal", "OwnerPublicKey", "Verify"] "SetRVBlob" = true ∧
    Fdo.Facts.allBefore "TO2Server.to2Done2" ["ProveDeviceNonce", "SetupDeviceNonce", "Equal", "ReplacementHmac", "GUID", "Voucher", "RvInfo", "ReplacementGUID"] "ReplaceVoucher" = true ∧
    Fdo.Facts.before "TO2Server.ownerServiceInfo" "Devmod" "HandleInfo" = true ∧
    Fdo.Facts.before "Handler.writeResponse" "Respond" "InvalidateToken" = true ∧
    Fdo.Facts.before "Handler.ServeHTTP" "NewToken" "handleRequest" = true ∧
    Fdo.Facts.atLeast "Handler.handleError" "InvalidateToken" 1 = true := by decide +kernel

end Fdo.Props.C08
