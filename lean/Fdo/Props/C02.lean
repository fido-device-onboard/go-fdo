import Fdo.Proto.ServerProofs
import Fdo.Facts
/-
C02 — the owner serves only a peer that proved the device key for this session.

Statements about `Fdo.Proto.Server.step` for the state reached by ANY history of requests and ANY
next request. Signature verification, nonce equality and the key agreement are the symbolic
fields of a request (`signer`, `nonceOf`, `enc`); the correspondence harness builds real tokens,
signatures and ciphertexts from them and checks that the real owner decides the same.
-/
namespace Fdo.Props.C02
open Fdo.Proto.Server

/-- the response or effect is one that only a proven device may get -/
def Privileged (resp : Nat) (eff : List Effect) : Prop :=
  resp = 65 ∨ resp = 67 ∨ resp = 69 ∨ resp = 71 ∨
  ∃ e ∈ eff, (∃ k, e = .ownerModule k) ∨ (∃ k d, e = .replaceVoucher k d)

/-- **SetupDevice, the service-info answers, Done2, owner-module invocations and voucher
replacement happen only in a session that accepted a ProveDevice token** `q`, received in that
same session (`q.tok = .sess k`), signed by the key of the device the session's HelloDevice named
(`q.signer = some d`), carrying that session's nonce (`q.nonceOf = some k`) and that device's GUID as
UEID (`q.dev = d`); the session's tunnel keys are those derived from that token's key-exchange
parameter (`kex = done q.xb`), every one of 66–70 that was served was encrypted under exactly
these keys, and when the answer is SetupDevice the token is the present request itself. -/
theorem served_only_after_proof (v : List Nat) (reuse : Bool) (m : Nat) (history : List Req) (r : Req) :
    let st := stateAfter (init v reuse m) history
    Privileged (step st r).2.1 (step st r).2.2 →
    ∃ k s' q d, r.tok = .sess k ∧ (step st r).1.sessions[k]? = some s' ∧
      s'.proved = some q ∧ q.typ = 64 ∧ q.tok = .sess k ∧
      s'.guid = some d ∧ q.signer = some d ∧ q.dev = d ∧ q.nonceOf = some k ∧
      s'.kex = .done q.xb ∧ q.xb ≠ 0 ∧
      ((step st r).2.1 ≠ 65 → r.enc = some (k, q.xb)) ∧ ((step st r).2.1 = 65 → q = r) := by
  intro st hpriv
  have hinv : Inv st := stateAfter_inv (init_inv v reuse m) history
  -- only an answered non-start request can be privileged
  rcases step_served_or st r with ⟨k, s, s', resp, eff, h⟩ | ⟨_, resp, hstep, hresp⟩
  · rw [h.step_eq] at hpriv ⊢
    -- owner modules run in 68, vouchers are replaced in 70: every privileged answer is 65, 67, 69 or 71
    have hresp : resp = 65 ∨ resp = 67 ∨ resp = 69 ∨ resp = 71 := by
      have hr := handle_resp h.handled
      rcases hpriv with h' | h' | h' | h' | ⟨e, he, ⟨_, rfl⟩ | ⟨_, _, rfl⟩⟩
      · exact .inl h'
      · exact .inr (.inl h')
      · exact .inr (.inr (.inl h'))
      · exact .inr (.inr (.inr h'))
      all_goals have := (handle_effects (hinv k s h.get) h.handled _ he).2.1; omega
    obtain ⟨q, d, hq⟩ := handle_proof (hinv k s h.get) (fun _ => h.tok) h.proto h.handled hresp
    exact ⟨k, finish s' r.typ resp, q, d, h.tok, h.step_eq ▸ h.after, hq⟩
  · -- not served: no effect, and the answer is 255, nothing, or a protocol's first response
    rw [hstep] at hpriv
    have hne : resp ≠ 65 ∧ resp ≠ 67 ∧ resp ≠ 69 ∧ resp ≠ 71 := by
      rw [isStart_iff] at hresp; omega
    rcases hpriv with h | h | h | h | ⟨_, he, _⟩
    · exact absurd h hne.1
    · exact absurd h hne.2.1
    · exact absurd h hne.2.2.1
    · exact absurd h hne.2.2.2
    · cases he

/-- no session that named device `d` has a completed key exchange -/
def NoProof (d : Nat) (st : State) : Prop :=
  ∀ (k : Nat) (s : Sess), st.sessions[k]? = some s → s.guid = some d → ∀ xb, s.kex ≠ .done xb

theorem noProof_init (d : Nat) (v : List Nat) (b : Bool) (m : Nat) : NoProof d (init v b m) := init_all _ v b m

/-- a request that is not a ProveDevice signed with `d`'s key cannot complete `d`'s key exchange -/
theorem noProof_step {d : Nat} {st : State} (h : NoProof d st) (r : Req)
    (hr : r.typ = 64 → r.signer ≠ some d) : NoProof d (step st r).1 :=
  step_sessions (P := fun _ s => s.guid = some d → ∀ xb, s.kex ≠ .done xb) r (hdead := fun _ _ h => h)
    (hfresh := fun _ hg => nomatch hg)
    (hans := fun hs _ _ _ _ hh hg xb hk => by
      rcases handle_kex_done hh xb hk with ⟨hk0, hg0, _⟩ | ⟨h64, hsig, hg0, _⟩
      · exact hs (hg0 ▸ hg) xb hk0
      · exact hr h64 (hsig.trans (hg0 ▸ hg)))
    h

theorem noProof_history {d : Nat} {st : State} (h : NoProof d st) (rs : List Req)
    (hno : ∀ q ∈ rs, q.typ = 64 → q.signer ≠ some d) : NoProof d (stateAfter st rs) :=
  stateAfter_ind h fun _ h q hq => noProof_step h q (hno q hq)

/-- **Without the device's private key: nothing but the voucher and errors.** If no ProveDevice
in the whole history, nor the present request, is signed with device `d`'s key — whatever else the
peer sends, in whatever order, under whatever tokens, nonces and encryption — then every request
on a session whose HelloDevice named `d` is answered by an ownership-voucher entry (63) or an error
and causes no effect, and no request at all replaces `d`'s voucher. -/
theorem no_device_key_only_errors (v : List Nat) (reuse : Bool) (m : Nat) (d : Nat) (history : List Req) (r : Req)
    (hno : ∀ q ∈ history, q.typ = 64 → q.signer ≠ some d) (hr : r.typ = 64 → r.signer ≠ some d) :
    let st := stateAfter (init v reuse m) history
    (∀ (k : Nat) (s : Sess), r.tok = .sess k → isStart r.typ = false → st.sessions[k]? = some s → s.guid = some d →
      ((step st r).2.1 = 63 ∨ (step st r).2.1 = 255 ∨ (step st r).2.1 = 0) ∧ (step st r).2.2 = []) ∧
    (∀ e ∈ (step st r).2.2, ∀ k', e ≠ .replaceVoucher k' d) := by
  intro st
  have hinv : Inv st := stateAfter_inv (init_inv v reuse m) history
  have hnp : NoProof d st := noProof_history (noProof_init d v reuse m) history hno
  -- a served request on a session of `d` is not privileged
  have key : ∀ {k : Nat} {s s' : Sess} {resp : Nat} {eff : List Effect}, st.sessions[k]? = some s → s.guid = some d →
      handle st k s r = some (s', resp, eff) → ¬ (resp = 65 ∨ resp = 67 ∨ resp = 69 ∨ resp = 71) := by
    intro k s s' resp eff hs hg hh hresp
    obtain ⟨xb, hkx, _, _⟩ := handle_served_kex hh hresp
    rcases handle_kex_done hh xb hkx with ⟨hk0, _⟩ | ⟨h64, hsig, _⟩
    · exact hnp k s hs hg xb hk0
    · exact hr h64 (hsig.trans hg)
  rcases step_served_or st r with ⟨k, s, s', resp, eff, h⟩ | ⟨_, resp, hstep, hresp⟩
  · rw [h.step_eq]
    constructor
    · intro k' s0 htok hst hs hg
      cases h.tok.symm.trans htok
      cases h.get.symm.trans hs
      -- the session is a TO2 session, so of TO2's requests only GetOVNextEntry is left
      have hto2 : protoOf r.typ = some .to2 :=
        h.proto.trans (congrArg some ((hinv k s hs).hproto (hg ▸ Option.some_ne_none d)))
      have hnot := key hs hg h.handled
      cases handle_spec h.handled with
      | m62 => exact ⟨.inl rfl, rfl⟩
      | m60 ht => rw [ht] at hst; cases hst
      | m64 | m66 | m68dm | m68mod | m70 | m70repl => exact absurd (by decide) hnot
      | m10 ht | m12 ht | m20 ht | m22 ht | m30 ht | m32 ht => rw [ht] at hto2; cases hto2
    · intro e he k' hrep
      subst hrep
      have h70 := (handle_effects (hinv k s h.get) h.handled _ he).2.1
      have := handle_resp h.handled
      exact key h.get (handle_replace_guid h.handled k' d he) h.handled (by omega)
  · rw [hstep]
    refine ⟨fun _ _ _ hst _ _ => ⟨?_, rfl⟩, fun _ he => nomatch he⟩
    rcases hresp with h | ⟨_, h⟩ | ⟨h, _⟩
    · exact .inr (.inl h)
    · exact .inr (.inr h)
    · exact nomatch hst.symm.trans h

/-! Non-vacuity: the honest run is served; the same run with the token signed by another device's
key, with another session's nonce, another device's UEID, or with later messages under self-chosen
keys, gets nothing but errors. -/

example : (run (init [1, 2] false 2) [
    { tok := .none, typ := 60, dev := 1 },
    { tok := .sess 0, typ := 64, dev := 1, nonceOf := some 0, signer := some 1, xb := 7 },
    { tok := .sess 0, typ := 66, enc := some (0, 7), hmac := true }]).2 = [(61, []), (65, []), (67, [])] := by decide +kernel

example : (run (init [1, 2] false 2) [
    { tok := .none, typ := 60, dev := 1 },
    { tok := .sess 0, typ := 64, dev := 1, nonceOf := some 0, signer := some 2, xb := 7 },
    { tok := .sess 0, typ := 66, enc := some (0, 7), hmac := true }]).2 = [(61, []), (255, []), (255, [])] := by decide +kernel

example : (run (init [1, 2] false 2) [
    { tok := .none, typ := 60, dev := 1 }, { tok := .none, typ := 60, dev := 1 },
    { tok := .sess 0, typ := 64, dev := 1, nonceOf := some 1, signer := some 1, xb := 7 },
    { tok := .sess 1, typ := 64, dev := 2, nonceOf := some 1, signer := some 1, xb := 8 },
    { tok := .sess 1, typ := 70, enc := none, nonceOf := some 1 }]).2 =
    [(61, []), (61, []), (255, []), (255, []), (255, [])] := by decide +kernel


/-- **What the source does, in which order** (regenerated call-order facts of
`TO2Server.setupDevice` and `Handler.handleRequest`): the device key is taken from the voucher, the
token is verified, the session nonce is fetched and two comparisons (nonce, UEID) are made — all
before the key exchange is completed (`SetParameter`) and before the replacement credential is
chosen; requests 66–70 are decrypted under the session's keys before they reach the responder. -/
theorem code_facts :
    Fdo.Facts.allBefore "TO2Server.setupDevice" ["Voucher", "DevicePublicKey", "Verify", "ProveDeviceNonce", "Equal"] "SetParameter" = true ∧
    Fdo.Facts.before "TO2Server.setupDevice" "DevicePublicKey" "Verify" = true ∧
    Fdo.Facts.before "TO2Server.setupDevice" "SetParameter" "replacementCredential" = true ∧
    Fdo.Facts.before "TO2Server.setupDevice" "SetParameter" "Sign" = true ∧
    Fdo.Facts.atLeast "TO2Server.setupDevice" "Equal" 2 = true ∧
    Fdo.Facts.before "Handler.handleRequest" "CryptSession" "Decrypt" = true ∧
    Fdo.Facts.before "Handler.handleRequest" "Decrypt" "writeResponse" = true := by decide +kernel

end Fdo.Props.C02
