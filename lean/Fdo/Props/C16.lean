import Fdo.Svc.RoundsProofs
/-
C16 — TO2 service info is delivered exactly once, in order, until modules finish.

Model: Fdo/Svc/Rounds.lean (device: Devmod.Write with the module-list chunker, the round loop,
handleOwnerModuleMessages; owner: ownerServiceInfo with the devmod module, then the scripted modules through the
module state machine, produceOwnerServiceInfo; the system `Sys` / `step` / `runN`; `respond` = what to2Done2
reads of the session), built on the chunking model of C15 (Fdo/Svc/Chunk.lean, always `Variant.repaired`).
Helper lemmas: Fdo/Svc/RoundsProofs.lean.

The theorems about `Fixes.repaired` describe the library after these repairs (see the header of Rounds.lean):
  fix: devmod: bound nummodules and check the range of a modules chunk                       (devmodBounds)
  fix: serviceinfo: devmod messages are never split across DeviceServiceInfo messages         (devmodWhole)
  fix: serviceinfo: a first chunk with an empty key no longer panics the ChunkWriter          (firstKey)
  fix: serviceinfo: CloseWithError after ForceNewMessage still delivers the error             (yieldErr)
`Fixes.original` is the tree as found; the `…_original` theorems at the end are concrete inputs on which it
breaks the property (each is replayed on the Go code by the harness).

NOT repaired, recorded as an open finding (signature C16.owner-accepts-done-without-service-info):
`to2Done2` never looks at the service-info phase.  `owner_accepts_early_done` is the witness; the device-side
half of "Done iff the last module is done" is proved (`done_iff_last_module_done`), the owner-side acceptance
only in the `_partial` form.

Not proved here (modelled, see DESIGN §3): goroutine interleavings and the blocking behaviour of pipes and
channels.  The device's producer and consumer loops are the stream functions they compute; that the code
computes them under every schedule tried is evidenced by the correspondence run (GOMAXPROCS 1/2/n, injected
Gosched/sleeps, split reads and writes).
-/
namespace Fdo.Props.C16
open Fdo Fdo.Cbor Fdo.Svc.Chunk Fdo.Svc.Rounds

/-! ### devmod: the module list -/

/-- MODULE LIST ROUND TRIP, for any number of names: if every name fits a chunk of its own, the greedy
chunker of `Devmod.Write` succeeds; every chunk it writes fits the space of one message as a whole KV; chunk k
carries `[start, len, names…]` with `start` the running sum; the chunks hold all names in order; and the owner,
having allocated `nummodules` slots, rebuilds exactly the list — from the decoded chunks (`applyAll`) and from
the bytes of the `devmod:modules` messages, however the chunks are grouped into message bodies
(`parseModules`, `encs`). -/
theorem devmod_modules_roundtrip (F : Fixes) (B : Nat) (names : List Bytes)
    (hne : names ≠ []) (hn : ∀ n ∈ names, n ≠ [] ∧ n.length < maxLen) (hc : names.length ≤ maxModules)
    (hfit : ∀ n ∈ names, ∀ s, s ≤ names.length → chunkFits .repaired B s [n] = true) :
    ∃ cs, moduleChunks (chunkFits .repaired B) 0 [] names = some cs ∧
      (∀ c ∈ cs, kvSize (chunkKV c) ≤ B) ∧ StartsOK 0 cs ∧ catNames cs = names ∧
      handleNum .repaired (Int.ofNat names.length) = .ok (List.replicate names.length []) ∧
      applyAll F (List.replicate names.length []) cs = .ok names ∧
      (∀ pre post, cs = pre ++ post →
        (match parseModules F ((encs pre).length + 1) (List.replicate names.length []) (encs pre) with
         | .ok l => parseModules F ((encs post).length + 1) l (encs post)
         | .reject => .reject
         | .panic s => .panic s) = .ok names) := by
  obtain ⟨cs, hcs, hcat, hstarts, hfits⟩ := moduleChunks_total _ names hne hfit
  have happly : applyAll F (List.replicate names.length []) cs = .ok names := by
    simpa [hcat] using applyAll_fill F cs [] (fun m hm => by cases hm) (hcat ▸ fun m hm => (hn m hm).1) hstarts
  have hwf := chunkWF_of_starts cs hstarts (hcat ▸ hc) (hcat ▸ fun n h => (hn n h).2)
  refine ⟨cs, hcs, fun c h => (chunkFits_repaired ..).1 (hfits c h).2, hstarts, hcat,
    handleNum_ok _ hc, happly, ?_⟩
  rintro pre post rfl
  rw [parseModules_encs F pre _ _ (fun x hx => hwf x (List.mem_append_left _ hx)) (by omega)]
  rw [applyAll_append] at happly
  cases h1 : applyAll F (List.replicate names.length []) pre with
  | ok l => rw [h1] at happly; exact (parseModules_encs F post _ _ (fun x hx => hwf x (List.mem_append_right _ hx)) (by omega)).trans happly
  | reject => rw [h1] at happly; cases happly
  | panic s => rw [h1] at happly; cases happly

/-- `Devmod.Write` succeeds whenever the required descriptors are there and every devmod message —
each descriptor, nummodules, each module name in a chunk of its own — fits one TO2.DeviceServiceInfo: the
"minimum MTU that works" of the property, as an explicit decidable condition. -/
theorem devmod_write_succeeds (sendMtu : Nat) (cfg : DevCfg) (hv : validate cfg.fields = true)
    (hhead : ∀ m ∈ devmodHead cfg, kvSize (kvOf m) ≤ sendMtu - 5)
    (hfit : ∀ n ∈ cfg.names, ∀ s, s ≤ cfg.names.length → chunkFits .repaired (sendMtu - 5) s [n] = true)
    (hne : cfg.names ≠ []) :
    (devmodOps .repaired sendMtu cfg).isSome = true := by
  obtain ⟨cs, hcs, _, _, hfits⟩ := moduleChunks_total _ cfg.names hne hfit
  obtain ⟨r1, h1⟩ := Option.isSome_iff_exists.1 (emitAll_isSome .repaired rfl _ _ hhead (sendMtu - 5))
  obtain ⟨r2, h2⟩ := Option.isSome_iff_exists.1 (emitAll_isSome .repaired rfl (sendMtu - 5) (chunkMsgs cs) (by
    simp only [chunkMsgs, List.mem_map]
    rintro _ ⟨c, hc, rfl⟩
    exact (chunkFits_repaired ..).1 (hfits c hc).2) (sendMtu - 5))
  have hw : writeLimit .repaired sendMtu = sendMtu - 5 := rfl
  unfold chunkMsgs at h2
  simp [devmodOps, hw, hv, h1, hcs, h2]

/-- THE OWNER GETS DEVMOD, whatever the MTU and the number of modules (as long as `Devmod.Write` can send
its messages at all): after the 68 messages of the first round the owner's session holds exactly the device's
non-empty descriptors and nothing else, the device's whole module list in the order it was sent, devmod is
marked complete and the first owner module has been selected; no owner module has seen anything yet.
The number of steps is the number of 68 messages `Devmod.Write` fills through the real chunker. -/
theorem owner_gets_devmod (c : Cfg) (hF : c.F = .repaired) (hok : CfgOk c.sendMtu c.dev) (ops : List Op)
    (hops : devmodOps .repaired c.sendMtu c.dev = some ops) :
    (runN (allBatches .repaired (c.sendMtu - 5) (compile ops)).batches.length (Sys.init c)).own.dm.complete = true ∧
    (runN (allBatches .repaired (c.sendMtu - 5) (compile ops)).batches.length (Sys.init c)).own.dm.mods = some c.dev.names ∧
    (∀ f ∈ c.dev.fields, f.val ≠ [] →
      (runN (allBatches .repaired (c.sendMtu - 5) (compile ops)).batches.length (Sys.init c)).own.dm.get f.name = f.val) ∧
    (∀ p ∈ (runN (allBatches .repaired (c.sendMtu - 5) (compile ops)).batches.length (Sys.init c)).own.dm.fields,
      ∃ f ∈ c.dev.fields, f.val ≠ [] ∧ p = (f.name, f.val)) ∧
    (runN (allBatches .repaired (c.sendMtu - 5) (compile ops)).batches.length (Sys.init c)).own.stage ≠ .devmod ∧
    (runN (allBatches .repaired (c.sendMtu - 5) (compile ops)).batches.length (Sys.init c)).own.log = [] := by
  obtain ⟨hdone, o', hfold, h1, h2, h3, h4, h5, h6⟩ := devmod_round c hF hok ops hops
  have hinit := Sys.init_eq c ops (hF ▸ hops) hdone
  have := runN_ownFold _ (Sys.init c) o' (by rw [hinit]) (by rw [hinit]) (by rw [hinit]; exact hfold)
  rw [this]
  exact ⟨h1, h2, h3, h4, h5, h6⟩

/-! ### owner modules run one after another -/

/-- OWNER MODULES ARE SEQUENTIAL, in every reachable state of every configuration (any scripts, any MTUs,
any number of steps): the owner's log obeys `seqCheck` — every HandleInfo and ProduceInfo belongs to the module
that is current, and the current module changes only when it has reported done, to the next one. -/
theorem owner_modules_sequential (c : Cfg) (n : Nat) :
    seqCheck 0 (runN n (Sys.init c)).own.log = true ∧
    doneCount (runN n (Sys.init c)).own.log = (runN n (Sys.init c)).own.idx :=
  let h := (runN_inv n _ (init_inv c)).own
  ⟨h.seq, h.idx⟩

/-- What `seqCheck` means: the module an event belongs to is the number of modules that reported done
before it.  So module k+1 sees no message (and produces nothing) before module k — and every module before
it — has reported done, and module k sees nothing after it has. -/
theorem seqCheck_meaning (log pre post : List OEv) (e : OEv) (h : seqCheck 0 log = true) (hs : log = pre ++ e :: post) :
    (match e with
     | .handle i _ _ => i
     | .produce i _ => i) = doneCount pre := by
  subst hs
  rw [seqCheck_append] at h
  simp only [Bool.and_eq_true, Nat.zero_add] at h
  have h2 := h.2
  cases e with
  | handle i m b => simp only [seqCheck, Bool.and_eq_true, beq_iff_eq] at h2; exact h2.1
  | produce i d => cases d <;> (simp only [seqCheck, Bool.and_eq_true, beq_iff_eq] at h2; exact h2.1)

/-! ### device modules: activation, unknown modules -/

/-- A DEVICE MODULE NEEDS `active`, in every reachable state: the device's log obeys `actTrack` — Receive and
Yield of a module happen only while it is active, and a module becomes active only by handling an owner message
`active = true` for it. -/
theorem device_module_needs_active (c : Cfg) (n : Nat) :
    actTrack [] (runN n (Sys.init c)).dev.log = some (runN n (Sys.init c)).dev.active :=
  (runN_inv n _ (init_inv c)).dev.track

/-- What `actTrack` means: a module that is in the tracked set was activated by an `active = true` message
(`val = true`, result active) with no deactivation after it. -/
theorem actTrack_meaning (m : Bytes) (pre : List DEv) : ∀ act act', actTrack act pre = some act' → m ∈ act' →
    (m ∈ act ∧ ∀ v, DEv.active m v false ∉ pre) ∨
    ∃ p1 p2, pre = p1 ++ DEv.active m true true :: p2 ∧ ∀ v, DEv.active m v false ∉ p2 := by
  induction pre with
  | nil =>
    intro act act' h hm
    cases h
    exact Or.inl ⟨hm, fun v hv => by cases hv⟩
  | cons e r ih =>
    intro act act' h hm
    -- an event after which the tracker goes on from `act1`: what holds of the rest holds of `e :: r`,
    -- unless `e` deactivates `m`
    have lift : ∀ act1, actTrack act1 r = some act' → (m ∈ act1 → m ∈ act ∧ ∀ v, e ≠ DEv.active m v false) →
        (m ∈ act ∧ ∀ v, DEv.active m v false ∉ e :: r) ∨
          ∃ p1 p2, e :: r = p1 ++ DEv.active m true true :: p2 ∧ ∀ v, DEv.active m v false ∉ p2 := by
      intro act1 h1 hin
      rcases ih act1 act' h1 hm with ⟨h2, h3⟩ | ⟨p1, p2, rfl, hp⟩
      · exact Or.inl ⟨(hin h2).1, fun v hv => (List.mem_cons.1 hv).elim (fun e => (hin h2).2 v e.symm) (h3 v)⟩
      · exact Or.inr ⟨e :: p1, p2, rfl, hp⟩
    cases e with
    | active m' v res =>
      simp only [actTrack] at h
      split at h
      · cases h
      · rename_i hres
        by_cases hact : m' = m ∧ res = true
        · -- this event activates `m`
          obtain ⟨rfl, rfl⟩ := hact
          obtain rfl : v = true := by simpa using hres
          rcases ih _ act' h hm with ⟨_, h3⟩ | ⟨p1, p2, hp, hq⟩
          · exact Or.inr ⟨[], r, rfl, h3⟩
          · exact Or.inr ⟨_ :: p1, p2, by rw [hp]; rfl, hq⟩
        · refine lift _ h fun h1 => ?_
          rcases mem_setActive _ _ _ _ h1 with ⟨hin, hne⟩ | ⟨rfl, rfl⟩
          · refine ⟨hin, fun v' e => ?_⟩
            cases e
            exact hne rfl rfl
          · exact absurd ⟨rfl, rfl⟩ hact
    | trans m' a => exact lift act h fun h1 => ⟨h1, nofun⟩
    | recv m' n' b' =>
      simp only [actTrack] at h
      split at h
      · exact lift act h fun h1 => ⟨h1, nofun⟩
      · cases h
    | yield m' =>
      simp only [actTrack] at h
      split at h
      · exact lift act h fun h1 => ⟨h1, nofun⟩
      · cases h

/-- A Receive in the log happened while the module was in the tracked set. -/
theorem recv_only_when_active (log pre post : List DEv) (m n b : Bytes) (act : List Bytes)
    (h : actTrack [] log = some act) (hs : log = pre ++ DEv.recv m n b :: post) :
    ∃ act', actTrack [] pre = some act' ∧ m ∈ act' := by
  subst hs
  rw [actTrack_append] at h
  cases hp : actTrack [] pre with
  | none => rw [hp] at h; cases h
  | some act' =>
    rw [hp] at h
    simp only [Option.bind_some, actTrack] at h
    split at h
    · exact ⟨act', rfl, by assumption⟩
    · cases h

/-- UNKNOWN MODULES ANSWER INACTIVE: an `active = true` for a module the device does not have (and that is
not devmod) is answered with `<module>:active = false`, the module is not active afterwards, nothing fails. -/
theorem unknown_module_inactive (d : Dev) (m rest : Bytes) (hc : colon ∉ m) (hk : known d.mods m = false)
    (hd : m ≠ nDevmod) (ha : m ∉ d.active) :
    (handleOne d (mkKey m nActive) (0xf5 :: rest)).ops = [.next (mkKey m nActive), .write cbFalse] ∧
    (handleOne d (mkKey m nActive) (0xf5 :: rest)).err = false ∧
    m ∉ (handleOne d (mkKey m nActive) (0xf5 :: rest)).dev.active := by
  unfold handleOne
  simp only [cutKey_mkKey m nActive hc, if_true, List.head?_cons, true_or]
  have hdec : decide (m ∈ d.active) = false := by simpa using ha
  simp only [hdec, hk]
  have hdd : decide (m = nDevmod) = false := by simpa using hd
  simp [hdd, setActive, ha]

/-- … and in every reachable state: an activation of a module the device does not have always ended
inactive, and no such module ever received anything. -/
theorem unknown_module_never_active (c : Cfg) (n : Nat) :
    (∀ m v res, DEv.active m v res ∈ (runN n (Sys.init c)).dev.log →
      known (runN n (Sys.init c)).dev.mods m = false → m ≠ nDevmod → res = false) ∧
    (∀ m msg b, DEv.recv m msg b ∈ (runN n (Sys.init c)).dev.log →
      known (runN n (Sys.init c)).dev.mods m = true ∨ m = nDevmod) :=
  let h := (runN_inv n _ (init_inv c)).dev
  ⟨fun m v res hm => h.evs (.active m v res) hm, fun m msg b hm => h.evs (.recv m msg b) hm⟩

/-! ### streams -/

/-- EXACTLY ONCE, IN ORDER, COMPLETE, in both directions and across any number of protocol messages:

(1) device → owner: for every round whose keys fit the send budget (`UsableMtu`, the guard of C15 `lossless`),
    the round drains what the device modules wrote, and what the owner's HandleInfo is given over the 68
    messages of the round (`fragsAll`: each 68 reassembled on its own), consecutive fragments of one key
    concatenated, is exactly the list of messages written (consecutive equal keys concatenated) — nothing lost,
    duplicated, reordered or truncated, however many 68 messages a value spans;
(2) owner → device: the KVs the owner modules wrote over all 69 messages of a round reach the device as the
    messages `mergeConsecutive (pairs kvs)`: consecutive KVs of one key are one stream, also across 69
    messages (IsMoreServiceInfo);
(3) when no callback fails, each of these messages that is not `active` is handed to Receive of the module it
    names, in order, whole, once. -/
theorem stream_exactly_once :
    (∀ mtu script, UsableMtu mtu script →
      (allBatches .repaired mtu script).fin = .done ∧
      mergeConsecutive (fragsAll (allBatches .repaired mtu script).batches) = mergeConsecutive (messages script)) ∧
    (∀ (F : Fixes) kvs, (∀ c ∈ kvs, c.key ≠ []) → reassembleF F kvs = .ok (mergeConsecutive (pairs kvs))) ∧
    (∀ d ms, (handleAll d ms).err = false →
      recvsOf (handleAll d ms).dev.log = recvsOf d.log ++ forModules ms) := by
  refine ⟨round_stream, ?_, handleAll_recvs⟩
  intro F kvs h
  rw [reassembleF_ok F kvs h, reasm_eq_mc kvs h]

/-- HandleInfo of the current module gets exactly the fragments of the 68 it arrives in, in order, before
anything the module produces in answer. -/
theorem handleinfo_gets_fragments (o : Own) (b : Batch) (o' : Own) (rep : Reply) (hs : o.stage = .running)
    (hk : ∀ c ∈ b.kvs, c.key ≠ []) (h : ownStep o b = .ok (o', rep)) :
    ∃ tail, o'.log = o.log ++ handleEvents o.idx (frags b) ++ tail ∧ (tail = [] ∨ ∃ d, tail = [.produce o.idx d]) := by
  obtain ⟨msgs, hre, ⟨hst, _⟩ | ⟨_, _, _, _, _, h⟩⟩ := ownStep_ok o b o' rep h
  · rw [hs] at hst; cases hst
  · obtain rfl : frags b = msgs := by rw [reassembleF_ok o.F b.kvs hk] at hre; cases hre; rfl
    rcases h with ⟨_, _, rfl⟩ | ⟨_, _, _, rfl⟩ | ⟨_, _, _, rfl⟩
    · exact ⟨[], by simp, Or.inl rfl⟩
    · exact ⟨_, rfl, Or.inr ⟨true, rfl⟩⟩
    · exact ⟨_, rfl, Or.inr ⟨false, rfl⟩⟩

/-! ### Done -/

/-- DONE IFF THE LAST MODULE IS DONE, the part that holds, in every reachable state:
the DEVICE sends Done (70) exactly when the owner has answered IsDone (never before), the owner answers IsDone
exactly when devmod is complete and no module is left, and then the last thing in its log is the last module's
ProduceInfo reporting done (or there was no module at all). -/
theorem done_iff_last_module_done (c : Cfg) (n : Nat) :
    ((runN n (Sys.init c)).phase = .done ↔ (runN n (Sys.init c)).own.stage = .finished) ∧
    ((runN n (Sys.init c)).own.stage = .finished ↔
      ((runN n (Sys.init c)).own.stage ≠ .devmod ∧ (runN n (Sys.init c)).own.mods = [])) ∧
    ((runN n (Sys.init c)).own.stage = .finished → (runN n (Sys.init c)).own.idx = 0 ∨
      (runN n (Sys.init c)).own.log.getLast? = some (.produce ((runN n (Sys.init c)).own.idx - 1) true)) :=
  let h := runN_inv n _ (init_inv c)
  ⟨h.done, h.own.fin, h.own.last⟩

/-- IsDone is only ever sent in answer to a 68 without IsMoreServiceInfo, never together with
IsMoreServiceInfo, and it is the answer in which the module list runs out.
(`hi` is not needed: the four facts follow from `ownStep_ok` alone.) -/
theorem isdone_ends_the_round (o : Own) (b : Batch) (o' : Own) (rep : Reply) (hi : OwnInv o)
    (h : ownStep o b = .ok (o', rep)) (hd : rep.done = true) :
    rep.more = false ∧ b.more = false ∧ o'.stage = .finished ∧ o.stage ≠ .finished := by
  have := ownStep_inv o b o' rep h hi
  exact ⟨(this.2.2.1 hd).1, (this.2.2.1 hd).2, (this.2.1.1 hd).1, (this.2.1.1 hd).2⟩

/-- A 68 that arrives after IsDone is refused. -/
theorem no_service_info_after_isdone (o : Own) (b : Batch) (hk : ∀ c ∈ b.kvs, c.key ≠ []) (h : o.stage = .finished) :
    ownStep o b = .reject := by
  unfold ownStep
  rw [reassembleF_ok o.F b.kvs hk]
  simp [h]

/-
Full statement for the owner side, FALSE for the code as it is (open finding
C16.owner-accepts-done-without-service-info):
  theorem owner_accepts_done_only_after_isdone (pd) (s) (n) (s') :
      respond pd s (.done n) = (s', .ok 71) → s.serviceInfoDone = true
-/

/-- OPEN FINDING, witness: the request history 60, 62, 62, 64, 66, 70 — no TO2.DeviceServiceInfo at all — is
answered 61, 63, 63, 65, 67, 71 and the stored voucher is replaced, while the session shows that the
service-info phase never started. -/
theorem owner_accepts_early_done :
    (respondAll [7] {} [.hello true, .nextEntry, .nextEntry, .proveDevice [1] [2], .ready (some [3]) 1300, .done [7]]).2 =
      [.ok 61, .ok 63, .ok 63, .ok 65, .ok 67, .ok 71] ∧
    (respondAll [7] {} [.hello true, .nextEntry, .nextEntry, .proveDevice [1] [2], .ready (some [3]) 1300, .done [7]]).1.replaced = true ∧
    (respondAll [7] {} [.hello true, .nextEntry, .nextEntry, .proveDevice [1] [2], .ready (some [3]) 1300, .done [7]]).1.serviceInfoStarted = false := by
  decide +kernel

/-- What does hold of `to2Done2`: Done is accepted only with the nonce of this session's ProveOVHdr and after
SetupDevice (so only from the device that proved its key in this session), and the voucher is replaced only
when OwnerServiceInfoReady stored a replacement HMAC. -/
theorem done_accepted_partial (pd : Bytes) (s s' : Sess) (n : Bytes) (h : respond pd s (.done n) = (s', .ok 71)) :
    s.proveDvNonce = some n ∧ s.setupDvNonce.isSome = true ∧
    (s'.replaced = true → s.replaced = true ∨ (s.replHmac.isSome = true ∧ s.replGuid.isSome = true ∧ s.rvInfo = true)) := by
  simp only [respond] at h
  split at h                        -- on the two stored nonces
  · rename_i p _ hp hq
    split at h                      -- on `p ≠ n`
    · cases h
    · rename_i hpn
      rw [hp, hq, ← Decidable.of_not_not hpn]
      split at h                    -- on `s.replHmac`
      · cases h; exact ⟨rfl, rfl, Or.inl⟩
      · rename_i hh
        split at h <;> cases h      -- on `s.replGuid = none ∨ !s.rvInfo`
        rename_i hc
        simp only [not_or, Bool.not_eq_true, Bool.not_eq_false'] at hc
        exact ⟨rfl, rfl, fun _ => Or.inr ⟨by simp [hh], Option.isSome_iff_ne_none.2 hc.1, hc.2⟩⟩
  · cases h

/-! ### no panics in the repaired code -/

/-- THE OWNER'S DEVMOD MODULE NEVER PANICS (repaired code), whatever bytes the device sends under whatever
message name and in whatever state: a negative or oversized `nummodules` and a `modules` chunk outside the
announced list are errors. -/
theorem devmod_never_panics (d : DmState) (name body : Bytes) (site : String) :
    dmHandle .repaired d name body ≠ .panic site :=
  dmHandle_no_panic .repaired rfl d name body site

/-- … and neither does `ownerServiceInfo` as a whole, in any stage, on any 68 (empty keys included). -/
theorem owner_never_panics (o : Own) (hF : o.F = .repaired) (b : Batch) (site : String) :
    ownStep o b ≠ .panic site :=
  ownStep_no_panic o (hF ▸ rfl) (hF ▸ rfl) b site

/-! ### non-vacuity -/

private def exFields : List Field := [
  ⟨[111, 115], [108, 105, 110], false⟩,                       -- os = "lin"
  ⟨[97, 114, 99, 104], [120], false⟩,                         -- arch = "x"
  ⟨[118, 101, 114, 115, 105, 111, 110], [49], false⟩,         -- version = "1"
  ⟨[100, 101, 118, 105, 99, 101], [100], false⟩,              -- device = "d"
  ⟨[115, 110], [1, 2], true⟩,                                 -- sn = h'0102'
  ⟨[112, 97, 116, 104, 115, 101, 112], [], false⟩,            -- pathsep empty: not sent
  ⟨[115, 101, 112], [47], false⟩,                             -- sep = "/"
  ⟨[98, 105, 110], [120], false⟩]                             -- bin = "x"

/-- module list: "ma", "mb", "devmod" -/
private def exNames : List Bytes := [[109, 97], [109, 98], nDevmod]

/-- The hypotheses of `owner_gets_devmod` are satisfiable at the smallest send size that works for this
device (32: 27 bytes for the KVs of a message), where devmod takes twelve 68 messages. -/
example : CfgOk 32 ⟨exFields, exNames⟩ :=
  ⟨by decide, by decide +kernel,
    fun f hf =>
      -- `∃ req` over the two Booleans, so that the kernel can decide it
      have ⟨⟨req, _, h⟩, hl⟩ := (by decide +kernel : ∀ f ∈ exFields,
        (∃ req ∈ [true, false], fieldTable.lookup f.name = some (f.bin, req)) ∧ f.val.length < maxLen) f hf
      ⟨⟨req, h⟩, hl⟩,
    (nodup_iff _).2 (by decide +kernel), by decide, by decide +kernel, by decide⟩

example : (devmodOps .repaired 32 ⟨exFields, exNames⟩).isSome = true := by decide +kernel

/-- … and one byte less does not work (`devmod_write_succeeds` states the condition): the chunk holding
"devmod" alone needs 27 bytes. -/
example : devmodOps .repaired 31 ⟨exFields, exNames⟩ = none := by decide +kernel

/-- The twelve 68 messages of that devmod round: every value whole, only the last without
IsMoreServiceInfo (it is empty: the last chunk used the space of its message up exactly). -/
example : (match devmodOps .repaired 32 ⟨exFields, exNames⟩ with
    | some ops => (allBatches .repaired 27 (compile ops)).batches.map fun (b : Batch) => (b.more, b.kvs.map fun (c : KV) => c.val)
    | none => []) =
    [(true, [[245]]), (true, [[99, 108, 105, 110]]), (true, [[97, 120]]), (true, [[97, 49]]), (true, [[97, 100]]),
     (true, [[66, 1, 2]]), (true, [[97, 47]]), (true, [[97, 120]]), (true, [[3]]),
     (true, [[132, 0, 2, 98, 109, 97, 98, 109, 98]]), (true, [[131, 2, 1, 102, 100, 101, 118, 109, 111, 100]]),
     (false, [])] := by decide +kernel

/-- The state right after the devmod round of the same device at send size 36, where it takes ten 68 messages
(as `owner_gets_devmod` describes it; the descriptors are left out), with two owner modules:
"ma" (activation, a message, the device answers with 30 bytes and a forced break) and "mb", which uses
IsMoreServiceInfo. -/
private def exAfter : Sys :=
  ⟨36,
   ⟨[⟨[109, 97], [⟨[.send [114] [1, 2, 3, 4, 5, 6, 7, 8, 9, 10, 11, 12, 13, 14, 15, 16, 17, 18, 19, 20, 21, 22, 23, 24, 25, 26, 27, 28, 29, 30], .yield], false⟩], []⟩,
     ⟨[109, 98], [], []⟩], [], [], [], []⟩,
   ⟨.repaired, 40, true, ⟨[], some exNames, true⟩, .running,
    [⟨[109, 97], [⟨[(nActive, cbTrue), ([120], [9, 9])], false⟩, ⟨[], false⟩]⟩,
     ⟨[109, 98], [⟨[(nActive, cbTrue)], true⟩, ⟨[([121], [7])], false⟩]⟩], 0, []⟩,
   [⟨false, []⟩], [], .run, 10, 2⟩

/-- The rest of TO2: six more exchanges, then Done — not earlier. -/
example : (runN 6 exAfter).phase = .done ∧ (runN 5 exAfter).phase = .run := by decide +kernel

/-- The owner's log: module 0 gets the activation answer and the 30-byte answer "r" as two fragments (11 and
19 bytes, two 68 messages), reports done; only then module 1 runs. -/
example : (runN 6 exAfter).own.log =
    [.produce 0 false, .handle 0 nActive cbTrue,
     .handle 0 [114] [1, 2, 3, 4, 5, 6, 7, 8, 9, 10, 11],
     .handle 0 [114] [12, 13, 14, 15, 16, 17, 18, 19, 20, 21, 22, 23, 24, 25, 26, 27, 28, 29, 30], .produce 0 true,
     .produce 1 false, .produce 1 true] := by decide +kernel

/-- The device's log: each module is activated before its Receive; "mb" gets its message in the round in
which the owner said IsDone. -/
example : (runN 6 exAfter).dev.log =
    [.trans [109, 97] true, .active [109, 97] true true, .recv [109, 97] [120] [9, 9], .yield [109, 97], .yield [109, 97],
     .trans [109, 98] true, .active [109, 98] true true, .recv [109, 98] [121] [7], .yield [109, 98]] := by decide +kernel

/-- `unknown_module_inactive` is not vacuous. -/
example : known exAfter.dev.mods [122, 122] = false ∧ colon ∉ ([122, 122] : Bytes) ∧ ([122, 122] : Bytes) ≠ nDevmod := by decide +kernel

/-! ### the tree as found (regression witnesses for the repairs) -/

/-- devmodBounds: `nummodules = -1` panics in `make`. -/
theorem nummodules_negative_panics_original :
    dmHandle .original DmState.init nNum [0x20] = .panic "devmod-nummodules-negative" := by
  decide +kernel

/-- devmodBounds: `nummodules = 2`, then a chunk `[0, 3, "a", "b", "c"]` panics in the slice expression. -/
theorem modules_range_panics_original :
    applyChunk .original (List.replicate 2 []) 0 3 [[97], [98], [99]] = .panic "devmod-modules-range" ∧
    applyChunk .repaired (List.replicate 2 []) 0 3 [[97], [98], [99]] = .reject := by
  decide +kernel

/-- … and so does a chunk that arrives without any nummodules. -/
theorem modules_without_nummodules_panics_original :
    applyChunk .original [] 0 1 [[97]] = .panic "devmod-modules-range" := by decide +kernel

/-- firstKey: a first KV with an empty key. -/
theorem empty_key_panics_original (o : Own) (hF : o.F = .original) :
    ownStep o ⟨false, [⟨[], [1]⟩]⟩ = .panic "owner-chunk-empty-key" := by
  simp [ownStep, reassembleF, hF, Fixes.original]

/-- devmodWhole: the same device at send size 36 on the tree as found: the first 68 carries
`devmod:os` cut after two of its four bytes (`63 6c` of `63 6c 69 6e`) … -/
theorem devmod_split_original :
    (match devmodOps .original 36 ⟨exFields, exNames⟩ with
     | some ops => (allBatches .repaired 31 (compile ops)).batches.head?
     | none => none) =
      some ⟨true, [⟨mkKey nDevmod nActive, cbTrue⟩, ⟨mkKey nDevmod [111, 115], [99, 108]⟩]⟩ := by decide +kernel

/-- … and the owner, which handles every 68 on its own, fails on the fragment: TO2 ends with an error
in the devmod round (whatever the fixes on the owner's side). -/
theorem devmod_fragment_rejected (F : Fixes) :
    ownStep ⟨F, 40, true, DmState.init, .devmod, [], 0, []⟩
      ⟨true, [⟨mkKey nDevmod nActive, cbTrue⟩, ⟨mkKey nDevmod [111, 115], [99, 108]⟩]⟩ = .reject := by
  simp [ownStep, reassembleF, reasm, dmHandleAll, dmHandle, cutKey, mkKey, nDevmod, nActive, nNum, nModules, colon, cbTrue,
    unmarshalRaw, decode1, decode, decHead, fieldTable, maxLen]

/-- devmodWhole: the size test of the original chunker accepts chunks that do not fit a message: at
negotiated size 60 it puts five names into one chunk whose KV takes 58 bytes where a message has room for 55;
measured as it is sent the list needs two chunks. -/
theorem chunk_estimate_too_generous_original :
    chunkFits .original 60 0 [[109, 97, 97, 97, 97, 97, 97, 97], [109, 98, 98, 98, 98, 98, 98, 98], nDevmod, [109, 99, 99, 99, 99, 99, 99, 99], [109, 100]] = true ∧
    kvSize (chunkKV (0, [[109, 97, 97, 97, 97, 97, 97, 97], [109, 98, 98, 98, 98, 98, 98, 98], nDevmod, [109, 99, 99, 99, 99, 99, 99, 99], [109, 100]])) = 58 ∧
    (moduleChunks (chunkFits .repaired 55) 0 [] [[109, 97, 97, 97, 97, 97, 97, 97], [109, 98, 98, 98, 98, 98, 98, 98], nDevmod, [109, 99, 99, 99, 99, 99, 99, 99], [109, 100]]).map List.length = some 2 := by decide +kernel

/-- yieldErr: a callback that fails right after `yield()` — on the tree as found the round goes on as if
nothing had happened (the rest of the owner's messages of the round is dropped), repaired TO2 fails. -/
theorem error_after_yield_original :
    (nextRound { exAfter with inbox := [⟨mkKey [109, 97] nActive, cbTrue⟩, ⟨mkKey [109, 97] [120], [1]⟩, ⟨mkKey [109, 97] [121], [2]⟩],
                              own := { exAfter.own with F := .original },
                              dev := { exAfter.dev with mods := [⟨[109, 97], [⟨[.send [114] [5], .yield], true⟩], []⟩] } }).phase = .run ∧
    (nextRound { exAfter with inbox := [⟨mkKey [109, 97] nActive, cbTrue⟩, ⟨mkKey [109, 97] [120], [1]⟩, ⟨mkKey [109, 97] [121], [2]⟩],
                              dev := { exAfter.dev with mods := [⟨[109, 97], [⟨[.send [114] [5], .yield], true⟩], []⟩] } }).phase = .failed := by
  decide +kernel

end Fdo.Props.C16
