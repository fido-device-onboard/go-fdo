import Fdo.Cbor.CanonProofs
import Fdo.Cbor.TypedProofs
import Fdo.Gen.Schemas
/-
C11 — CBOR encoding is canonical and decode/encode are mutual inverses.
Property theorems only; helper lemmas live in Fdo/Cbor/{Proofs,CanonProofs,TypedProofs}.lean.
-/
namespace Fdo.Props.C11
open Fdo Fdo.Cbor

/-- Shortest-form heads: the head of argument `n` takes 1/2/3/5/9 bytes exactly at the
RFC 8949 boundaries. -/
theorem encHead_shortest (mt n : Nat) :
    (encHead mt n).length =
      if n < 24 then 1 else if n < 256 then 2 else if n < 65536 then 3
      else if n < 4294967296 then 5 else 9 :=
  Cbor.encHead_length mt n

/-- decode ∘ encode = id on every item within the library's limits, with any trailing
bytes left untouched (stream positioned at the next item). -/
theorem decode_encode (x : Item) (hx : x.WF) (hd : x.depth ≤ maxDepth) (r : Bytes) :
    decode x.size maxDepth (encode x ++ r) = some (x, r) :=
  Cbor.decode_encode x hx r x.size maxDepth (Nat.le_refl _) hd

/-- Encoding is injective and prefix-free on well-formed items: equal encodings followed by
anything mean equal items and equal continuations.  (Its corollary `encode_injective` gives the
injectivity of Sig_structure / MAC_structure in C13.) -/
theorem encode_prefix_free (x y : Item) (hx : x.WF) (hy : y.WF) (r s : Bytes)
    (h : encode x ++ r = encode y ++ s) : x = y ∧ r = s :=
  Cbor.encode_prefix_free hx hy h

theorem encode_injective (x y : Item) (hx : x.WF) (hy : y.WF) (h : encode x = encode y) : x = y :=
  Cbor.encode_injective hx hy h

/-- Non-vacuity: a nested item with a map, a tag and boundary integers is well-formed. -/
example : (Item.arr (.cons (.map (.cons (.uint 24) (.nint 255) .nil))
    (.cons (.tag 18 (.bstr [1, 2, 3])) (.cons (.uint 18446744073709551615) .nil)))).WF := by
  simp [Item.WF, Items.WF, Pairs.WF, Items.length, Pairs.length, maxLen]

/-! ### canonical form

`decodeStrict` is the definition of *canonical input* used here: shortest-form heads only, map keys
strictly ascending bytewise on their encodings, one-byte simple values. The correspondence run feeds
every byte string `cbor.Marshal` produced to it (`cbor.strict`), so "the library's encoder emits
canonical bytes" is checked on the implementation; what follows is proved for all inputs. -/

/-- **encode(decode(b)) reproduces b byte for byte for canonical b.** Whatever the strict decoder
accepts is the encoding of the item it returns followed by the untouched rest; the item is within
the library's limits and in canonical form. -/
theorem reencode_canonical (f : Nat) (b : Bytes) (v : Item) (r : Bytes)
    (h : decodeStrict f b = some (v, r)) : b = encode v ++ r ∧ v.WF ∧ v.Canonical :=
  let ⟨h1, h2, h3, _⟩ := decodeStrict_sound f b v r h
  ⟨h1, h2, h3⟩

/-- The library's (lenient) decoder reads canonical input as the strict one does: for canonical `b`
the value the real decoder returns is the one whose encoding is `b`. -/
theorem lenient_agrees_on_canonical (f : Nat) (b : Bytes) (v : Item) (r : Bytes)
    (h : decodeStrict f b = some (v, r)) (d : Nat) (hd : v.depth ≤ d) : decode f d b = some (v, r) :=
  (decodeStrict_sound f b v r h).2.2.2 d hd

/-- Canonical byte strings are exactly the encodings of canonical items (so the hypothesis of
`reencode_canonical` is neither vacuous nor wider than "an encoder output"). -/
theorem canonical_iff_encoding (b : Bytes) :
    (∃ f v, decodeStrict f b = some (v, [])) ↔ ∃ x : Item, x.WF ∧ x.Canonical ∧ b = encode x := by
  constructor
  · rintro ⟨f, v, h⟩
    obtain ⟨h1, h2, h3⟩ := reencode_canonical f b v [] h
    exact ⟨v, h2, h3, by simpa using h1⟩
  · rintro ⟨x, hx, hc, rfl⟩
    exact ⟨x.size, x, by simpa using decodeStrict_encode x hx hc [] x.size (Nat.le_refl _)⟩

/-- **The encoder emits canonical form**: the bytes written for any value the encoder can be handed
(no two keys of one map encoding identically) are accepted by the strict decoder, which returns the
value with every map in bytewise key order. -/
theorem marshal_is_canonical (x : Item) (hx : x.WF) (hm : x.Marshalable) (r : Bytes) :
    decodeStrict x.norm.size (marshal x ++ r) = some (x.norm, r) :=
  decodeStrict_encode x.norm (norm_wf x hx) (norm_canonical x hm) r _ (Nat.le_refl _)

/-- **Map keys are written in strictly ascending bytewise order of their encodings.** -/
theorem marshal_keys_sorted (ps : Pairs) (hd : ps.norm.KeysDistinct) :
    ∃ qs, marshal (.map ps) = encHead 5 qs.length ++ encodePairs qs ∧ qs.StrictSorted = true ∧ qs.length = ps.length :=
  ⟨Pairs.sort ps.norm, rfl, sort_strictSorted _ hd, by rw [sort_length, norm_length_pairs]⟩

/-- **Encoding is deterministic**: the bytes do not depend on the order in which a map's pairs reach
the encoder (Go map iteration order). -/
theorem marshal_order_independent (ps qs : Pairs) (hp : ps.toList.Perm qs.toList)
    (hd : DistinctKeysL ps.norm.toList) : marshal (.map ps) = marshal (.map qs) := by
  have hn : ps.norm.toList.Perm qs.norm.toList := by
    rw [norm_toList, norm_toList]; exact hp.map _
  have := sort_perm _ _ hn hd
  rw [ofList_toList, ofList_toList] at this
  simp [marshal, Item.norm, this]

/-- decode ∘ marshal = normal form: what was marshalled is read back (maps in key order), with
anything that follows left in the stream. (`hm` is not needed: the lenient decoder reads every encoding of a
well-formed item.) -/
theorem decode_marshal (x : Item) (hx : x.WF) (hm : x.Marshalable) (hd : x.norm.depth ≤ maxDepth) (r : Bytes) :
    decode x.norm.size maxDepth (marshal x ++ r) = some (x.norm, r) :=
  Cbor.decode_encode x.norm (norm_wf x hx) r _ _ (Nat.le_refl _) hd

/-- Non-vacuity: a two-key map given in the wrong order is marshalable; its marshalling is the
canonical `a2 01 02 18 18 03`, and re-encoding what the strict decoder reads gives the same bytes. -/
example :
    let m := Item.map (.cons (.uint 24) (.uint 3) (.cons (.uint 1) (.uint 2) .nil))
    m.WF ∧ m.Marshalable ∧ marshal m = [0xa2, 0x01, 0x02, 0x18, 0x18, 0x03]
      ∧ (decodeStrict 10 (marshal m)).map (fun p => encode p.1) = some (marshal m) := by
  refine ⟨by simp [Item.WF, Pairs.WF, Pairs.length, maxLen], ?_, by decide, by decide⟩
  simp [Item.Marshalable, Pairs.Marshalable, Pairs.norm, Item.norm, Pairs.KeysDistinct, Pairs.hasKey]
  decide

/-- A non-canonical encoding of the same map (keys out of order / a two-byte head for 1) is refused
by the strict decoder although the lenient one reads it. -/
example : decodeStrict 10 [0xa2, 0x18, 0x18, 0x03, 0x01, 0x02] = none
    ∧ decodeStrict 10 [0x18, 0x01] = none
    ∧ (decode1 [0xa2, 0x18, 0x18, 0x03, 0x01, 0x02]).isSome = true := by decide +kernel

/-! ### the typed codec (Go values of declared types, FDO message structures)

`decodeS`/`encodeS` model `Decoder.Decode(&T)` / `Marshal(T)` for the Go type described by a `Schema`
(regenerated from the code: `Fdo.Gen.Schemas`). For the fragment decided by `Schema.inFragment`
decode ∘ encode = id is proved below for every conforming value (including the embedded COSE header with
labels in encoding order and scalar values, and the tag-number checking wrappers `Sign1Tag`/`Mac0Tag`/
`Encrypt0Tag`, whose raw pre-pass needs every typed encoding to be one well-formed untyped item — `encWfl`);
what `inFragment` leaves out (`omitempty` on anything but a byte slice, maps whose keys are not scalars, pointers
to types whose encoding may begin with null, `Unmarshaler`s that re-decode their raw bytes — `viaRaw`) is
tied to the implementation by the correspondence run only. -/

/-- **decode(encode(v)) = v for typed values**, with any following bytes left in the stream: for every
type in the fragment, every value the type can hold within the library's limits (`conf`), any nesting
budget `d` the value fits in, and any fuel the model is given beyond the stated minimum. -/
theorem typed_decode_encode (ok : CertOracle) (g : Nat) (s : Schema) (v : Val) (b r : Bytes) (d f : Nat)
    (hs : s.inFragment = true) (henc : encodeS g s v = some b) (hconf : conf ok g d s v = true)
    (hlen : b.length < 18446744073709551616) (hf : 2 * b.length + 1 + s.ptrDepth ≤ f) :
    decodeS ok f d s (b ++ r) = some (v, r) :=
  decodeS_encodeS ok g s v b r d f hs henc hconf hlen hf

/-- `cbor.Unmarshal(cbor.Marshal(v), &w)` gives `w = v` on the fragment.  (`10000` is the fuel of `marshalS`; `63` is what
the fuel of `unmarshalS`, `2 * length + 64`, leaves for pointer levels; `18446744073709551616` is 2^64: the length of a
string fits the 8-byte argument of its head.) -/
theorem typed_unmarshal_marshal (ok : CertOracle) (s : Schema) (v : Val) (b : Bytes)
    (hs : s.inFragment = true) (hp : s.ptrDepth ≤ 63) (henc : marshalS s v = some b)
    (hconf : conf ok 10000 maxDepth s v = true) (hlen : b.length < 18446744073709551616) :
    unmarshalS ok s b = some v :=
  unmarshalS_marshalS ok s v b hs hp henc hconf hlen

/-- All 69 regenerated wire and storage types are in the fragment, with at most 63 pointer levels (a type that
changes shape in the code and leaves the fragment makes this theorem, and so the build, fail). -/
theorem wire_types_in_fragment :
    (Fdo.Gen.Schemas.names.filter fun n =>
      match Fdo.Gen.Schemas.byName n with
      | some s => !(s.inFragment && decide (s.ptrDepth ≤ 63))
      | none => true) = [] ∧
    Fdo.Gen.Schemas.names.length = 69 := by decide +kernel

/-- the `interface{}` targets among them: the bare `any`, the EAT claim map (label ↦ any), the COSE_Sign1 object
that carries it, COSE_Key and the devmod modules chunk -/
theorem any_targets_in_fragment :
    Fdo.Gen.Schemas.s_any.inFragment = true ∧ Fdo.Gen.Schemas.s_EAT.inFragment = true ∧
    Fdo.Gen.Schemas.s_Sign1Tag_EAT_.inFragment = true ∧ Fdo.Gen.Schemas.s_cose_Key.inFragment = true ∧
    Fdo.Gen.Schemas.s_DevmodModulesChunk.inFragment = true := by decide +kernel

/-- Non-vacuity for the two raw-pass types: an EC2 COSE_Key {1: 2, -1: 1, -2: h'01', -3: h'02'} and a
modules chunk [0, 2, "a", "bc"] conform. -/
example :
    conf (fun _ => true) 100 maxDepth .coseKey
      (.map [(.int 1, .any (.int 2)), (.int (-1), .any (.int 1)), (.int (-2), .any (.bytes [1])), (.int (-3), .any (.bytes [2]))]) = true ∧
    conf (fun _ => true) 100 maxDepth .chunk (.strct [.int 0, .int 2, .list [.text [0x61], .text [0x62, 0x63]]]) = true := by
  decide +kernel

/-- Non-vacuity for `any`: an EAT-like claim map {10: h'0102', 256: [1, "a"], -3: true} conforms. -/
example :
    confAnyB maxDepth (.map [(.int 10, .bytes [1, 2]), (.int 256, .arr [.int 1, .text [0x61]]), (.int (-3), .bool true)]) = true := by
  decide +kernel

/-- Non-vacuity: a rendezvous redirect (`protocol.To1d`: addresses with nil and non-nil pointers, a hash)
conforms, marshals, and is read back. -/
example :
    let v : Val := .strct [.list [.strct [.nilp, .ref (.text [0x61]), .nat 8443, .nat 2]], .strct [.int (-16), .bytes [1, 2, 3]]]
    Fdo.Gen.Schemas.s_To1d.inFragment = true ∧ conf (fun _ => true) 10000 maxDepth Fdo.Gen.Schemas.s_To1d v = true
      ∧ (marshalS Fdo.Gen.Schemas.s_To1d v).isSome = true := by decide +kernel

end Fdo.Props.C11
