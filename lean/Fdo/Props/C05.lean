import Fdo.Kex.Crypter
import Fdo.Kex.CrypterProofs
import Fdo.Drv.Tunnel
import Fdo.Cbor.TypedProofs
import Fdo.Facts
/-
C05 — TO2 messages after ProveDevice are confidential and tamper-evident.
Theorems about the decision logic of the tunnel decrypter, for arbitrary primitives: a
plaintext is only ever obtained through the authenticated form of the session's suite.
-/
namespace Fdo.Props.C05
open Fdo Fdo.Cbor Fdo.Cose Fdo.Kex

/-- AEAD suites: a plaintext comes only out of a COSE_Encrypt0 (tag 16) whose *protected* header
names the suite's algorithm, with a 12-byte IV, by a successful AEAD open under the session key
with the Enc_structure of exactly that protected header as additional data. -/
theorem decrypt_authentic_aead (P : Prims) (s : Suite) (sek svk : Bytes) (enc0S : Schema) (t : Nat) (inner : Val)
    (p : Bytes) (hs : s.macAlg = 0) (hk : s.kind = .aead)
    (h : decryptVal P s sek svk enc0S t inner = .ok p) :
    t = 16 ∧ ∃ prot unprot c iv, inner = .strct [.hdr prot unprot, .ref (.bytes c)] ∧
      hdrInt prot 1 = some s.encAlg ∧ hdrBytes unprot 5 = some iv ∧ iv.length = 12 ∧
      P.aeadOpen sek iv (encStructure prot) c = some p := by
  rcases decryptVal_ok h with ⟨ht, _, hd⟩ | ⟨_, hn, _⟩
  · obtain ⟨prot, unprot, c, iv, rfl, ha, _, hiv, ho, _⟩ := decryptEnc0_some hd
    simp only [cipherOpen, hk] at ho
    simp only [algHeader, hk, if_true] at ha
    by_cases hl : iv.length = 12
    · rw [if_neg (fun hn => hn hl)] at ho
      exact ⟨ht, prot, unprot, c, iv, rfl, ha, hiv, hl, ho⟩
    · rw [if_pos hl] at ho; cases ho
  · exact absurd hs hn

/-- Encrypt-then-MAC suites: a plaintext comes only out of a COSE_Mac0 (tag 17) whose tag
equals the MAC, under the session's verification key, of the MAC_structure over the
re-encoded inner COSE_Encrypt0, which then decrypts to it. In particular a bare COSE_Encrypt0
is never accepted under such a suite. -/
theorem decrypt_authentic_etm (P : Prims) (s : Suite) (sek svk : Bytes) (enc0S : Schema) (t : Nat) (inner : Val)
    (p : Bytes) (hs : s.macAlg ≠ 0)
    (h : decryptVal P s sek svk enc0S t inner = .ok p) :
    t = 17 ∧ ∃ prot unprot e0 tag e0b, inner = .strct [.hdr prot unprot, .ref e0, .bytes tag] ∧
      marshalS enc0S e0 = some e0b ∧
      P.mac s.macAlg svk (toBeSigned ctxMac0 (encProtected (vmapSet prot (.int 1) (.int s.macAlg))) [] e0b) = some tag ∧
      decryptEnc0 P s sek e0 = some p := by
  rcases decryptVal_ok h with ⟨_, h0, _⟩ | ⟨ht, _, r⟩
  · exact absurd h0 hs
  · exact ⟨ht, r⟩

/-- Structural downgrades are refused: a bare COSE_Encrypt0 under an encrypt-then-MAC suite, a
COSE_Mac0 under an AEAD suite, and any other tag. -/
theorem wrong_wrapper_rejected (P : Prims) (s : Suite) (sek svk : Bytes) (enc0S : Schema) (t : Nat) (inner : Val) :
    (s.macAlg ≠ 0 → t = 16 → decryptVal P s sek svk enc0S t inner = .reject) ∧
    (s.macAlg = 0 → t = 17 → decryptVal P s sek svk enc0S t inner = .reject) ∧
    (t ≠ 16 → t ≠ 17 → decryptVal P s sek svk enc0S t inner = .reject) := by
  refine ⟨?_, ?_, ?_⟩
  · intro hs ht; unfold decryptVal; simp [ht, hs]
  · intro hs ht; unfold decryptVal; simp [ht, hs]
  · intro h1 h2; unfold decryptVal; simp [h1, h2]

/-- What is handed to the protocol layer is exactly one well-formed CBOR item. -/
theorem plaintext_is_one_item (P : Prims) (s : Suite) (sek : Bytes) (e0 : Val) (p : Bytes)
    (h : decryptEnc0 P s sek e0 = some p) : ∃ x, unmarshalRaw p = some x := by
  obtain ⟨_, _, _, _, _, _, _, _, _, hx⟩ := decryptEnc0_some h
  exact hx

/-- Strict PKCS#7: unpadding never yields bytes from a malformed pad (zero, longer than a block,
longer than the data, or inconsistent). -/
theorem unpad16_some (b q : Bytes) (h : unpad16 b = some q) :
    ∃ p : UInt8, b.getLast? = some p ∧ 1 ≤ p.toNat ∧ p.toNat ≤ 16 ∧ p.toNat ≤ b.length ∧
      q = b.take (b.length - p.toNat) ∧ (b.drop (b.length - p.toNat)).all (· == p) = true := by
  unfold unpad16 at h
  cases hp : b.getLast? with
  | none => rw [hp] at h; cases h
  | some p =>
    rw [hp] at h
    simp only [Option.ite_none_left_eq_some, Option.ite_none_right_eq_some, Option.some.injEq] at h
    obtain ⟨hc, hall, rfl⟩ := h
    exact ⟨p, rfl, by omega, by omega, by omega, rfl, hall⟩

/-- Non-vacuity: the strict unpadding accepts a correctly padded block. -/
example : unpad16 ([1, 2, 3] ++ List.replicate 13 13) = some [1, 2, 3] := by decide +kernel


/-! ### the sending side, and the round trip -/

/-- **A receiver obtains exactly the plaintext the sender protected** (decoded form; the CBOR transport
of the structure between the two is C11's round trip and is exercised by the correspondence run): for
every suite, keys, random stream and marshalled message, what `SessionCrypter.Encrypt` builds is opened
by `SessionCrypter.Decrypt` to that message — for any primitives that are functionally correct. -/
theorem decrypt_encrypt (P : Prims) (hP : PrimsCorrect P) (s : Suite) (sek svk : Bytes) (enc0S : Schema)
    (rnd p : Bytes) (t : Nat) (inner : Val) (rest : Bytes)
    (hp : ∃ x, unmarshalRaw p = some x)
    (h : encryptVal P s sek svk enc0S rnd p = some (t, inner, rest)) :
    decryptVal P s sek svk enc0S t inner = .ok p :=
  (decryptVal_encryptVal P hP s sek svk enc0S rnd p t inner rest hp h).1

/-- The sent form is the authenticated one of the suite: tag 16 exactly for AEAD suites (`macAlg = 0`),
tag 17 (COSE_Mac0 around COSE_Encrypt0) otherwise — never a bare COSE_Encrypt0 under an
encrypt-then-MAC suite. -/
theorem sent_form_matches_suite (P : Prims) (s : Suite) (sek svk : Bytes) (enc0S : Schema)
    (rnd p : Bytes) (t : Nat) (inner : Val) (rest : Bytes)
    (h : encryptVal P s sek svk enc0S rnd p = some (t, inner, rest)) :
    (s.macAlg = 0 → t = 16) ∧ (s.macAlg ≠ 0 → t = 17) := by
  obtain ⟨_, _, _, _, ⟨hm, ht, _⟩ | ⟨hm, ht, _⟩⟩ := encryptVal_some h
  · exact ⟨fun _ => ht, fun hn => absurd hm hn⟩
  · exact ⟨fun h0 => absurd h0 hm, fun _ => ht⟩

/-- **A fresh initialisation vector per message**: each message carries, as its IV, the next `ivLen`
bytes of the sender's random stream and consumes exactly those; two successive messages therefore
carry disjoint consecutive slices of the stream (equal only if the random source repeats itself). -/
theorem fresh_iv (P : Prims) (hP : PrimsCorrect P) (s : Suite) (sek svk : Bytes) (enc0S : Schema)
    (rnd p₁ p₂ : Bytes) (t₁ t₂ : Nat) (i₁ i₂ : Val) (r₁ r₂ : Bytes)
    (hp₁ : ∃ x, unmarshalRaw p₁ = some x) (hp₂ : ∃ x, unmarshalRaw p₂ = some x)
    (h₁ : encryptVal P s sek svk enc0S rnd p₁ = some (t₁, i₁, r₁))
    (h₂ : encryptVal P s sek svk enc0S r₁ p₂ = some (t₂, i₂, r₂)) :
    ∃ iv₁ iv₂, ivOfSent t₁ i₁ = some iv₁ ∧ ivOfSent t₂ i₂ = some iv₂ ∧
      iv₁ ++ iv₂ = rnd.take (2 * ivLen s) ∧ iv₁.length = ivLen s ∧ iv₂.length = ivLen s := by
  obtain ⟨_, a1, a2, a3⟩ := decryptVal_encryptVal P hP s sek svk enc0S rnd p₁ t₁ i₁ r₁ hp₁ h₁
  obtain ⟨_, b1, _, b3⟩ := decryptVal_encryptVal P hP s sek svk enc0S r₁ p₂ t₂ i₂ r₂ hp₂ h₂
  subst a2
  refine ⟨_, _, a1, b1, ?_, by rw [List.length_take]; omega, by rw [List.length_take]; omega⟩
  have : 2 * ivLen s = ivLen s + ivLen s := by omega
  rw [this, List.take_add]

/-- **On the wire**: the bytes the sender transmits (`SessionCrypter.Encrypt`, then `cbor.Marshal` of the
tagged COSE object) are read by the receiver (`SessionCrypter.Decrypt`: one tag from the stream, content
unmarshalled by tag number, MAC compared, ciphertext opened) as exactly the protected message. Composition
of the COSE round trip above with C11's typed CBOR round trip; `conf`/`wconf` say that IV and ciphertext
are within the codec's limits (byte strings below 100 000 bytes). -/
theorem wire_round_trip (P : Prims) (hP : PrimsCorrect P) (s : Suite) (sek svk rnd p : Bytes)
    (t : Nat) (inner : Val) (rest : Bytes) (sch : Schema) (raw : Bytes)
    (hp : ∃ x, unmarshalRaw p = some x)
    (henc : encryptVal P s sek svk Fdo.Gen.Schemas.s_Encrypt0 rnd p = some (t, inner, rest))
    (hsch : tunnelSchema t = some sch) (hraw : marshalS sch inner = some raw)
    (hconf : conf (fun _ => true) 10000 maxDepth sch inner = true) (hw : wconf 10000 maxDepth sch inner = true)
    (hlen : raw.length + 16 < 18446744073709551616) :
    decryptWire P s sek svk (encHead 6 t ++ raw) = .ok p := by
  obtain ⟨ht, hfr, hpd⟩ := tunnelSchema_facts t sch hsch
  -- the marshalled structure is one well-formed item for the raw decoder …
  obtain ⟨x, hx⟩ := encodeS_raw (fun _ => true) hfr hraw hconf hw
  -- … so the stream decoder reads the tag with exactly these bytes as its content
  have hne : raw.isEmpty = false := (raw_accepted hx).1
  -- encoder fuel 2: one level for the tag, one for its raw content
  have henc2 : encodeS 2 (.tagAny .raw) (.tag t (.raw raw)) = some (encHead 6 t ++ raw) := by
    simp [encodeS, hne]
  have hconf2 : conf (fun _ => true) 2 maxDepth (.tagAny .raw) (.tag t (.raw raw)) = true := by
    simp only [conf, hx, Bool.and_eq_true, decide_eq_true_eq]
    exact ⟨by rcases ht with h | h <;> omega, trivial⟩
  have hhl := encHead_length_le 6 t
  have hdec := decodeS_encodeS (fun _ => true) 2 (.tagAny .raw) (.tag t (.raw raw)) (encHead 6 t ++ raw) [] maxDepth
    (2 * (encHead 6 t ++ raw).length + 64) (hs := by decide) (henc := henc2) (hconf := hconf2)
    (hlen := by simp; omega) (hf := by simp [Schema.ptrDepth])
  simp only [List.append_nil] at hdec
  -- the content unmarshals to the structure that was marshalled, which opens to the message
  have hun := unmarshalS_marshalS (fun _ => true) sch inner raw hfr hpd hraw hconf (by omega)
  have hval := (decryptVal_encryptVal P hP s sek svk Fdo.Gen.Schemas.s_Encrypt0 rnd p t inner rest hp henc).1
  unfold decryptWire
  simp only [hdec, hsch, hun, hval]

/-! Non-vacuity of `wire_round_trip`: its hypotheses (`Fdo.Kex.wireHypothesesHold`: the sender's output
exists, marshals, and satisfies `conf` and `wconf`) are evaluated by the model driver for every message of
the correspondence run, with the Lean AES/HMAC as primitives, and reported as `hyp-ok` next to `self-ok`
(the model's receiver opening the model's sender's bytes); a kernel `decide` is not available here because
the header maps are written through `List.mergeSort`, which is defined by well-founded recursion. -/

/-- The Lean AES-GCM and AES-CTR used by the model driver are functionally correct in the sense
`decrypt_encrypt` needs (proved for the concrete implementations; CBC's block-cipher inverse is not
proved for the concrete AES and is validated by the byte-exact correspondence with Go only). -/
theorem concrete_gcm_ctr_correct :
    (∀ k n a p c, Fdo.Drv.Tunnel.prims.aeadSeal k n a p = some c → Fdo.Drv.Tunnel.prims.aeadOpen k n a c = some p) ∧
    (∀ k iv p c, Fdo.Drv.Tunnel.prims.ctr k iv p = some c → Fdo.Drv.Tunnel.prims.ctr k iv c = some p) :=
  ⟨fun _ _ _ _ _ h => Fdo.Prim.gcmOpen_gcmSeal? h, fun _ _ _ _ h => Fdo.Prim.aesCtr?_involutive h⟩

/-- strict unpadding inverts the padding the CBC sender applies -/
theorem unpad16_pad (b : Bytes) : unpad16 (Fdo.Prim.pad b 16) = some b := Fdo.Kex.unpad16_pad b

/-- **What the source does, in which order** (regenerated call-order facts of
`SessionCrypter.Decrypt` / `Encrypt`): the MAC is recomputed and compared before anything is
decrypted; encryption computes the MAC over what it has encrypted. -/
theorem code_facts :
    Fdo.Facts.allBefore "SessionCrypter.Decrypt" ["Digest", "Equal"] "Decrypt" = true ∧
    Fdo.Facts.before "SessionCrypter.Encrypt" "Encrypt" "Digest" = true := by decide +kernel

end Fdo.Props.C05
