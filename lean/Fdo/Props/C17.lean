import Fdo.Svc.FsimProofs
/-
C17 — FSIM file transfers deliver identical files or nothing.

Model: Fdo/Svc/Fsim.lean (the module pairs fdo.download, fdo.upload, fdo.wget as transducers over
whole messages; how messages travel is C15); helper lemmas: Fdo/Svc/FsimProofs.lean.
`H` is SHA-384 as a parameter; nothing about it is assumed except where a hypothesis says so.
Every statement is for files of any length (induction over the data chunks), every chunk-size
setting (positive, 0 ⇒ 1014, negative ⇒ 65535, all clipped to the space the negotiated size
leaves) and every negotiated size at which the owner module's first message fits (`fits`, decidable,
the excluded sizes make the owner module fail before anything is sent: nothing is delivered).

COMMITTED STATE: `Variant.repaired` describes fsim/upload_owner.go and fsim/upload_device.go after
  fix: fsim: upload owner finishes when the digest has arrived and fails on a length mismatch
  fix: fsim: upload device sizes its data chunks to the negotiated service info size
`Variant.original` is the tree as found; the `…_original` theorems at the end are the regression
witnesses (each is a concrete input on which the harness shows the same behaviour of the unrepaired
library).  Download and wget are unchanged; for them the following parts of the property are FALSE
on the code and are recorded as theorems about the model instead of being repaired:
  * download, announced length larger than what arrives: nobody reports anything (`overlength_stalls`);
  * download of an empty file never completes (`download_empty_stalls`; outside the property, which
    starts at one byte);
  * wget, length other than `WgetCommand.Length`: the owner fails TO2 but the file is in place
    (`wget_length_mismatch_keeps_file`); fdo.wget has no message that tells the device a length.

Collision resistance is an assumption, never proved: where a corrupted transfer has to be told from
the announced one by its digest, the theorem has the hypothesis `H received ≠ H file` (or, for a
transfer cut at the announced length, that no proper prefix has the announced digest).
-/
namespace Fdo.Props.C17
open Fdo Fdo.Svc.Fsim

/-! ### the sender's chunks -/

/-- The data chunks a sender emits concatenate to the file, none is empty, none exceeds the chunk
size — for every chunk size ≥ 1 and every file. -/
theorem chunks_concat (c : Nat) (hc : 1 ≤ c) (file : Bytes) :
    (chunks c file).flatten = file ∧ ∀ x ∈ chunks c file, x ≠ [] ∧ x.length ≤ c :=
  ⟨chunks_flatten c hc file, fun x hx => chunks_mem c hc file x hx⟩

/-- The chunk size both senders really use is at least 1 for every setting: download for every
`ChunkSize` (positive, zero, negative) once a data message fits at all, upload for every size the
owner accepts. -/
theorem chunk_size_pos (mtu : Nat) (chunk : Int) (ownMtu : Nat) (V : Variant) :
    (1 ≤ dataAvail mtu → 1 ≤ dlChunk mtu chunk) ∧ 1 ≤ upChunk V ownMtu :=
  ⟨dlChunk_pos mtu chunk, upChunk_pos V ownMtu⟩

/-! ### honest runs deliver -/

/-- DOWNLOAD DELIVERS.  For every file of at least one byte, every name, every `ChunkSize` (also
≤ 0), `MustDownload` either way, every size at which the announcement fits: after the honest run
the destination holds exactly the file, no temp file is left, the device answered
`done = length`, the owner module completed, and exactly the chunks of `chunks_concat` were sent.

Full statement without the guard `1 ≤ file.length` is false on the code: see `download_empty_stalls`. -/
theorem download_delivers (H : Bytes → Bytes) (P : DlParams) (file : Bytes) (fs : FS)
    (hlen : 1 ≤ file.length) (hname : P.name ≠ [])
    (hfit : fits true P.mtu modDownload (dlAnnounce P.name file.length) = true)
    (hav : 1 ≤ dataAvail P.mtu) :
    (download H P file .none fs).fs = fs.set P.name file ∧
    (download H P file .none fs).fs P.name = some file ∧
    (download H P file .none fs).reply = some (file.length : Int) ∧
    (download H P file .none fs).owner = .done ∧
    (download H P file .none fs).dev = .fresh ∧
    (download H P file .none fs).nsent = (chunks (dlChunk P.mtu P.chunk) file).length := by
  have hc := dlChunk_pos P.mtu P.chunk hav
  have hown : dlOwnerDone P.must file.length (file.length : Int) = .done := by
    have : ¬ (file.length : Int) = -1 := by omega
    simp [dlOwnerDone, this]
  -- `download_exact` with honest transit: the data unchanged, length and digest as announced
  rw [download_exact H P file .none fs (List.ne_nil_of_length_pos hlen) hfit hav (fun _ _ h => h)
      (by rw [received_honest _ hc]; rfl),
    received_honest _ hc, Transit.none_len, Transit.none_sha,
    dlEnd_done (dlFinalize_ok H ⟨P.name, file.length, H file, none⟩ fs file
      (by simp) (by simp) hname)]
  simp [hown]

/-- UPLOAD DELIVERS (repaired code).  For every file — also the empty one —, every size the owner
accepts (the device clips its chunks to it), every name: the owner stores exactly the file under
the base name, completes, and leaves no temp file.  The only assumption on `H` is that a digest is
not the empty string (the owner module treats an empty digest as "not yet received"). -/
theorem upload_delivers (H : Bytes → Bytes) (P : UpParams) (file : Bytes) (fs : FS)
    (hH : H file ≠ [])
    (hfit : fits false P.devMtu modUpload (upRequest P.name) = true) :
    (upload .repaired H P file .none fs).fs = fs.set (baseName P.name) file ∧
    (upload .repaired H P file .none fs).fs (baseName P.name) = some file ∧
    (upload .repaired H P file .none fs).owner = .done ∧
    (upload .repaired H P file .none fs).temp = false := by
  rw [upload_eq .repaired H P file .none fs hfit]
  simp only [upFinal, upBuf_eq]
  simp [received_honest _ (upChunk_pos .repaired P.ownMtu), hH]

/-- WGET DELIVERS.  For every body the server returns (also empty), with or without an announced
checksum, with or without `Length`: the destination holds exactly the body, the device answers
`done = length`, the owner module completes. -/
theorem wget_delivers (H : Bytes → Bytes) (P : WgetParams) (file : Bytes) (fs : FS)
    (hname : P.name ≠ [])
    (hsum : P.sum = [] ∨ P.sum = H file)
    (hlen : P.len = 0 ∨ P.len = file.length)
    (hfit : fits false P.mtu modWget (wgetRequest P) = true) :
    (wget H P .none (some file) fs).fs = fs.set P.name file ∧
    (wget H P .none (some file) fs).fs P.name = some file ∧
    (wget H P .none (some file) fs).reply = some (.done file.length) ∧
    (wget H P .none (some file) fs).owner = .done := by
  rw [wget_ok H P file fs hname hsum hfit]
  have h2 : ¬ (P.len > 0 ∧ file.length ≠ P.len) := by rcases hlen with h | h <;> simp [h]
  simp [h2]

/-! ### mismatch ⇒ no file, failure reported -/

/-- MISMATCH ⇒ NO FILE (download; the receiver is the device).  The device is told length
`T.len |file|` and digest `T.sha (H file)` and gets the bytes `received`.  If a digest is announced,
at least the announced number of bytes arrives, and the announced length or the announced digest
does not match what arrived, then nothing is put at any name (`fs` unchanged), the device's temp
file is gone, the device answers `done = -1`, and the owner module fails TO2 when `MustDownload`
is set and otherwise records the failure and completes.

`hcr` is needed only when the announced length is smaller than what arrives and ends exactly at a
message boundary: then the device checks the digest of that proper prefix; that it differs from the
announced digest is collision resistance (second preimage for a prefix), assumed not proved.
The case `T.len |file| > |received|` is `overlength_stalls`. -/
theorem mismatch_no_file (H : Bytes → Bytes) (P : DlParams) (file : Bytes) (T : Transit) (fs : FS)
    (hlen : 1 ≤ file.length)
    (hfit : fits true P.mtu modDownload (dlAnnounce P.name file.length) = true)
    (hav : 1 ≤ dataAvail P.mtu)
    (hs : T.sha (H file) ≠ [])
    (hL : T.len file.length ≤ ((received T (dlChunk P.mtu P.chunk) file).length : Int))
    (hmis : T.len file.length ≠ ((received T (dlChunk P.mtu P.chunk) file).length : Int) ∨
            T.sha (H file) ≠ H (received T (dlChunk P.mtu P.chunk) file))
    (hcr : ∀ p : Bytes, p <+: received T (dlChunk P.mtu P.chunk) file →
            (p.length : Int) = T.len file.length → p ≠ received T (dlChunk P.mtu P.chunk) file →
            H p ≠ T.sha (H file)) :
    (download H P file T fs).fs = fs ∧
    (download H P file T fs).dev = .fresh ∧
    (download H P file T fs).reply = some (-1) ∧
    (download H P file T fs).owner = (if P.must then .err else .done) := by
  refine download_reject H P file T fs (List.ne_nil_of_length_pos hlen) hfit hav hL fun p hp hpl => ⟨hs, ?_⟩
  by_cases heq : p = received T (dlChunk P.mtu P.chunk) file
  · subst heq
    rcases hmis with h | h
    · exact absurd hpl.symm h
    · exact fun h' => h h'.symm
  · exact hcr p hp hpl heq

/-- CORRUPTED DATA, INTACT DIGEST (download).  Length and digest arrive as announced, data chunks
are altered in transit without changing their sizes.  The only thing that tells the received bytes
from the file is the digest: under the hypothesis `H received ≠ H file` — collision resistance, an
assumption — nothing is delivered and the device answers -1. -/
theorem corrupt_data_no_file (H : Bytes → Bytes) (P : DlParams) (file : Bytes)
    (dat : Nat → Bytes → Bytes) (fs : FS)
    (hlen : 1 ≤ file.length)
    (hfit : fits true P.mtu modDownload (dlAnnounce P.name file.length) = true)
    (hav : 1 ≤ dataAvail P.mtu)
    (hH : H file ≠ [])
    (hsize : ∀ k c, (dat k c).length = c.length)
    (hcoll : H (received ⟨id, id, dat⟩ (dlChunk P.mtu P.chunk) file) ≠ H file) :
    (download H P file ⟨id, id, dat⟩ fs).fs = fs ∧
    (download H P file ⟨id, id, dat⟩ fs).reply = some (-1) ∧
    (download H P file ⟨id, id, dat⟩ fs).dev = .fresh := by
  have hrl := received_length ⟨id, id, dat⟩ hsize _ (dlChunk_pos P.mtu P.chunk hav) file
  have := mismatch_no_file H P file ⟨id, id, dat⟩ fs hlen hfit hav hH
    (by simp only [id]; omega) (Or.inr (fun h => hcoll h.symm))
    (by
      intro p hp hpl hne
      exfalso; apply hne
      simp only [id] at hpl
      exact List.IsPrefix.eq_of_length hp (by omega))
  exact ⟨this.1, this.2.2.1, this.2.1⟩

/-- ANNOUNCED LENGTH LARGER THAN WHAT ARRIVES (download) — here the property's "the receiver
reports failure" is FALSE on the code.  Nothing is put at any name, but nobody reports anything:
the device keeps waiting with its temp file (holding everything received), the owner module has
nothing left to send and never completes; TO2 exchanges empty service-info messages until the
1e6-round limit fails it.  (Every chunk-size setting, every file, also for `MustDownload`.) -/
theorem overlength_stalls (H : Bytes → Bytes) (P : DlParams) (file : Bytes) (T : Transit) (fs : FS)
    (hlen : 1 ≤ file.length)
    (hfit : fits true P.mtu modDownload (dlAnnounce P.name file.length) = true)
    (hav : 1 ≤ dataAvail P.mtu)
    (hL : ((received T (dlChunk P.mtu P.chunk) file).length : Int) < T.len file.length) :
    (download H P file T fs).fs = fs ∧
    (download H P file T fs).reply = none ∧
    (download H P file T fs).owner = .stall ∧
    (download H P file T fs).dev.temp = some (received T (dlChunk P.mtu P.chunk) file) := by
  rw [download_short H P file T fs hfit hav hL]
  simp [List.ne_nil_of_length_pos hlen]

/-- MISMATCH ⇒ NO FILE (upload, repaired code; the receiver is the owner module).  Whatever length
the owner is told and whatever bytes it gets: if a digest arrived and the announced length or the
digest does not match what was received — shorter, longer, altered — nothing is stored, the owner
module returns an error (TO2 fails) and its temp file is removed.  No assumption on `H`. -/
theorem mismatch_no_file_upload (H : Bytes → Bytes) (P : UpParams) (file : Bytes) (T : Transit) (fs : FS)
    (hfit : fits false P.devMtu modUpload (upRequest P.name) = true)
    (hs : T.sha (H file) ≠ [])
    (hmis : T.len file.length ≠ ((received T (upChunk .repaired P.ownMtu) file).length : Int) ∨
            T.sha (H file) ≠ H (received T (upChunk .repaired P.ownMtu) file)) :
    (upload .repaired H P file T fs).fs = fs ∧
    (upload .repaired H P file T fs).owner = .err ∧
    (upload .repaired H P file T fs).temp = false := by
  rw [upload_eq .repaired H P file T fs hfit]
  simp only [upFinal, upBuf_eq, hs, ne_eq, not_false_eq_true, if_true]
  by_cases hl : ((received T (upChunk .repaired P.ownMtu) file).length : Int) = T.len file.length
  · simp [hl, hmis.resolve_left fun h => h hl.symm]
  · simp [hl]

/-- CORRUPTED DATA, INTACT DIGEST (upload, repaired code): as for download, the step from "the
bytes differ" to "the digest differs" is the collision-resistance hypothesis. -/
theorem corrupt_data_no_file_upload (H : Bytes → Bytes) (P : UpParams) (file : Bytes)
    (dat : Nat → Bytes → Bytes) (fs : FS)
    (hfit : fits false P.devMtu modUpload (upRequest P.name) = true)
    (hH : H file ≠ [])
    (hcoll : H (received ⟨id, id, dat⟩ (upChunk .repaired P.ownMtu) file) ≠ H file) :
    (upload .repaired H P file ⟨id, id, dat⟩ fs).fs = fs ∧
    (upload .repaired H P file ⟨id, id, dat⟩ fs).owner = .err :=
  have := mismatch_no_file_upload H P file ⟨id, id, dat⟩ fs hfit hH (Or.inr (fun h => hcoll h.symm))
  ⟨this.1, this.2.1⟩

/-- MISMATCH ⇒ NO FILE (wget, digest).  If a checksum is announced and the body the device gets
does not have it — altered checksum or altered body (then `H body ≠ sum` is the collision-resistance
hypothesis) —, or the GET fails, nothing is put at any name, the device answers `error` and the
owner module fails TO2. -/
theorem mismatch_no_file_wget (H : Bytes → Bytes) (P : WgetParams) (T : Transit) (body : Option Bytes) (fs : FS)
    (hsum : P.sum ≠ []) (hs : T.sha P.sum ≠ [])
    (hmis : ∀ b, body = some b → H b ≠ T.sha P.sum)
    (hfit : fits false P.mtu modWget (wgetRequest P) = true) :
    (wget H P T body fs).fs = fs ∧
    (wget H P T body fs).reply = some .error ∧
    (wget H P T body fs).owner = .err := by
  -- the ends of `wget`: the request does not fit (1), the GET failed (2), the digest differs (3), no name (4), delivered (5)
  fun_cases wget H P T body fs with
  | case1 _ hnf => simp [hfit] at hnf
  | case2 | case3 | case4 => exact ⟨rfl, rfl, rfl⟩
  | case5 _ sha b hok =>
    -- the digest check cannot have passed
    have e : sha = T.sha P.sum := if_neg hsum
    exact absurd ⟨e ▸ hs, e ▸ hmis b rfl⟩ hok

/-- LENGTH MISMATCH (wget) — here the property's "no file appears" is FALSE on the code.  fdo.wget
has no message announcing a length to the device; `WgetCommand.Length` is compared by the owner
module with the device's `done` value after the device has already renamed the file into place.
For every body whose length differs from a given `Length` (digest absent or matching): the owner
module fails TO2, and the destination holds the body. -/
theorem wget_length_mismatch_keeps_file (H : Bytes → Bytes) (P : WgetParams) (b : Bytes) (fs : FS)
    (hname : P.name ≠ []) (hsum : P.sum = [] ∨ P.sum = H b)
    (hlen : P.len > 0 ∧ b.length ≠ P.len)
    (hfit : fits false P.mtu modWget (wgetRequest P) = true) :
    (wget H P .none (some b) fs).fs P.name = some b ∧
    (wget H P .none (some b) fs).owner = .err := by
  rw [wget_ok H P b fs hname hsum hfit]
  simp [hlen]

/-- DOWNLOAD OF AN EMPTY FILE (outside the property, which starts at one byte; the reason for the
guard in `download_delivers`): the owner announces length 0 and has no data message to send, the
device finalises only on a data message: neither side ever completes. -/
theorem download_empty_stalls (H : Bytes → Bytes) (P : DlParams) (T : Transit) (fs : FS)
    (hfit : fits true P.mtu modDownload (dlAnnounce P.name 0) = true)
    (hav : 1 ≤ dataAvail P.mtu) :
    (download H P [] T fs).fs = fs ∧ (download H P [] T fs).reply = none ∧
    (download H P [] T fs).owner = .stall := by
  rw [download_eq H P [] T fs hfit hav]
  simp [chunks_nil, deliver, dlLoop]

/-! ### the tree as found (regression witnesses for the two upload repairs)

Full-strength statements that are FALSE for `Variant.original`:
  theorem upload_delivers_original … (file arbitrary) : (upload .original H P file .none fs).owner = .done
  theorem mismatch_no_file_upload_original … : (upload .original H P file T fs).owner = .err ∧ temp = false
-/

/-- What does hold for the code as found: files of at least one byte are delivered (message level;
that a 1014-byte chunk is cut in two when the owner accepts less than 1042 bytes per message, and
that the owner module cannot decode the pieces, is below this model — the harness shows it). -/
theorem upload_delivers_original_partial (H : Bytes → Bytes) (P : UpParams) (file : Bytes) (fs : FS)
    (hlen : 1 ≤ file.length) (hH : H file ≠ [])
    (hfit : fits false P.devMtu modUpload (upRequest P.name) = true) :
    (upload .original H P file .none fs).fs (baseName P.name) = some file ∧
    (upload .original H P file .none fs).owner = .done ∧
    (upload .original H P file .none fs).temp = false := by
  rw [upload_eq .original H P file .none fs hfit]
  simp only [upFinal, upBuf_eq]
  simp [received_honest _ (upChunk_pos .original P.ownMtu), hH, Nat.lt_of_lt_of_le Nat.zero_lt_one hlen]

/-- Tree as found, over-announced length: for every file of at least one byte and every announced
length larger than what arrives, the owner module neither completes nor fails, and its temp file
stays. -/
theorem upload_overlength_stalls_original (H : Bytes → Bytes) (P : UpParams) (file : Bytes) (T : Transit) (fs : FS)
    (hlen : 1 ≤ file.length)
    (hfit : fits false P.devMtu modUpload (upRequest P.name) = true)
    (hL : ((received T (upChunk .original P.ownMtu) file).length : Int) < T.len file.length) :
    (upload .original H P file T fs).fs = fs ∧
    (upload .original H P file T fs).owner = .stall ∧
    (upload .original H P file T fs).temp = true := by
  have h1 : ¬ ((received T (upChunk .original P.ownMtu) file).length : Int) ≥ T.len file.length := by
    omega
  rw [upload_eq .original H P file T fs hfit]
  simp only [upFinal, upBuf_eq]
  simp [h1, chunks_ne_nil _ file (List.ne_nil_of_length_pos hlen)]

/-- Tree as found, empty file: the honest upload of an empty file never completes. -/
theorem upload_empty_stalls_original (H : Bytes → Bytes) (P : UpParams) (fs : FS)
    (hfit : fits false P.devMtu modUpload (upRequest P.name) = true) :
    (upload .original H P [] .none fs).fs = fs ∧ (upload .original H P [] .none fs).owner = .stall := by
  rw [upload_eq .original H P [] .none fs hfit]
  simp [upFinal]

/-- Tree as found, any failed check: the temp file is left behind (digest mismatch shown; the
"received more than announced" branch is the same). -/
theorem upload_failure_leaves_temp_original (H : Bytes → Bytes) (P : UpParams) (file : Bytes) (T : Transit) (fs : FS)
    (hlen : 1 ≤ file.length)
    (hfit : fits false P.devMtu modUpload (upRequest P.name) = true)
    (hs : T.sha (H file) ≠ [])
    (hL : T.len file.length = ((received T (upChunk .original P.ownMtu) file).length : Int))
    (hpos : T.len file.length > 0)
    (hmis : T.sha (H file) ≠ H (received T (upChunk .original P.ownMtu) file)) :
    (upload .original H P file T fs).owner = .err ∧ (upload .original H P file T fs).temp = true := by
  rw [upload_eq .original H P file T fs hfit]
  simp only [upFinal, upBuf_eq]
  simp [hs, hpos, ← hL, hmis, chunks_ne_nil _ file (List.ne_nil_of_length_pos hlen)]

/-! ### non-vacuity -/

/-- A toy digest for the examples (the theorems hold for every `H`). -/
private def toyH (b : Bytes) : Bytes :=
  [UInt8.ofNat (b.foldl (fun a x => a * 3 + x.toNat) 7), UInt8.ofNat b.length]

private def nm : Bytes := [97, 46, 98]                 -- "a.b"
private def f5 : Bytes := [10, 20, 30, 40, 50]
private def dl2 : DlParams := ⟨1300, 2, true, nm⟩       -- ChunkSize 2
private def dl0 : DlParams := ⟨160, 0, false, nm⟩       -- default chunk size at a small negotiated size
private def up : UpParams := ⟨1300, 40, [100, 47, 97, 46, 98]⟩   -- "d/a.b", owner accepts 40 bytes

/-- The guards of `download_delivers` are satisfiable, at the default size and at a small one; below
the announcement does not fit. -/
example : fits true 1300 modDownload (dlAnnounce nm 5) = true ∧ 1 ≤ dataAvail 1300 := by decide
example : fits true 160 modDownload (dlAnnounce nm 5) = true ∧ dataAvail 160 = 131 := by decide
example : fits true 120 modDownload (dlAnnounce nm 5) = false := by decide
example : (chunks (dlChunk 1300 2) f5) = [[10, 20], [30, 40], [50]] := by decide
example : dlChunk 1300 0 = 1014 ∧ dlChunk 1300 (-1) = 1271 ∧ dlChunk 65535 (-7) = 65506 ∧ dlChunk 160 65535 = 131 := by
  decide

/-- Instances of `download_delivers`. -/
example : (download toyH dl2 f5 .none FS.empty).fs nm = some f5 :=
  (download_delivers toyH dl2 f5 FS.empty (by decide) (by decide) (by decide) (by decide)).2.1
example : (download toyH dl0 f5 .none FS.empty).reply = some 5 :=
  (download_delivers toyH dl0 f5 FS.empty (by decide) (by decide) (by decide) (by decide)).2.2.1

/-- Instances of `upload_delivers`: the owner accepts 40 bytes, so chunks of at most 12 (the 5 bytes of `f5`
go in one), stored under the base name; and the empty file. -/
example : upChunk .repaired 40 = 12 ∧ upChunk .repaired 1300 = 1014 ∧ upChunk .repaired 20 = 1 := by decide
example : (upload .repaired toyH up f5 .none FS.empty).fs [97, 46, 98] = some f5 := by
  have := (upload_delivers toyH up f5 FS.empty (by decide) (by decide)).2.1
  simpa [up, baseName] using this
example : (upload .repaired toyH up [] .none FS.empty).owner = .done :=
  (upload_delivers toyH up [] FS.empty (by decide) (by decide)).2.2.1

/-- Instance of `wget_delivers` with checksum and length. -/
example : (wget toyH ⟨1300, nm, 30, toyH f5, 5⟩ .none (some f5) FS.empty).fs nm = some f5 :=
  (wget_delivers toyH ⟨1300, nm, 30, toyH f5, 5⟩ f5 FS.empty (by decide) (Or.inr rfl) (Or.inr rfl) (by decide)).2.1

/-- `mismatch_no_file`, digest altered in transit: all hypotheses hold (the prefix hypothesis is
void because the announced length is what arrives). -/
example : (download toyH dl2 f5 ⟨id, fun d => 0 :: d.drop 1, fun _ c => c⟩ FS.empty).reply = some (-1) :=
  (mismatch_no_file toyH dl2 f5 ⟨id, fun d => 0 :: d.drop 1, fun _ c => c⟩ FS.empty
    (by decide) (by decide) (by decide) (by decide) (by decide) (Or.inr (by decide))
    (fun p hp hpl hne => absurd (List.IsPrefix.eq_of_length hp (by
      have h5 : (received ⟨id, fun d => 0 :: d.drop 1, fun _ c => c⟩ (dlChunk dl2.mtu dl2.chunk) f5).length = 5 := by
        decide
      have h6 : ((f5.length : Nat) : Int) = 5 := by decide
      simp only [id] at hpl
      omega)) hne)).2.2.1

/-- `mismatch_no_file`, length under-announced by three so that it ends at a chunk boundary (2 of 5
bytes, chunks of 2): the prefix hypothesis is about the single prefix `[10, 20]` and holds for the toy
digest. -/
example : (download toyH dl2 f5 ⟨fun n => n - 3, id, fun _ c => c⟩ FS.empty).fs nm = none := by
  have := (mismatch_no_file toyH dl2 f5 ⟨fun n => n - 3, id, fun _ c => c⟩ FS.empty
    (by decide) (by decide) (by decide) (by decide) (by decide) (Or.inl (by decide))
    (fun p hp hpl _ => by
      have hr : received ⟨fun n => n - 3, id, fun _ c => c⟩ (dlChunk dl2.mtu dl2.chunk) f5 = f5 := by decide
      rw [hr] at hp
      have h6 : ((f5.length : Nat) : Int) = 5 := by decide
      have hl : p.length = 2 := by simp only [] at hpl; omega
      have : p = [10, 20] := by
        have := List.prefix_iff_eq_take.mp hp
        rw [hl] at this; rw [this]; decide
      subst this; decide)).1
  rw [this]; rfl

/-- `overlength_stalls`, `mismatch_no_file_upload` (one byte too many announced), `corrupt_data_no_file_upload`
(every data byte altered), `mismatch_no_file_wget`, `wget_length_mismatch_keeps_file`: hypotheses hold on
concrete inputs. -/
example : (download toyH dl2 f5 ⟨fun n => n + 1, id, fun _ c => c⟩ FS.empty).owner = .stall :=
  (overlength_stalls toyH dl2 f5 ⟨fun n => n + 1, id, fun _ c => c⟩ FS.empty
    (by decide) (by decide) (by decide) (by decide)).2.2.1
example : (upload .repaired toyH up f5 ⟨fun n => n + 1, id, fun _ c => c⟩ FS.empty).owner = .err :=
  (mismatch_no_file_upload toyH up f5 ⟨fun n => n + 1, id, fun _ c => c⟩ FS.empty
    (by decide) (by decide) (Or.inl (by decide))).2.1
example : (upload .repaired toyH up f5 ⟨id, id, fun _ c => c.map (· + 1)⟩ FS.empty).fs = FS.empty :=
  (corrupt_data_no_file_upload toyH up f5 (fun _ c => c.map (· + 1)) FS.empty (by decide) (by decide) (by decide)).1
example : (wget toyH ⟨1300, nm, 30, toyH f5, 0⟩ .none (some [1, 2, 3]) FS.empty).reply = some .error :=
  (mismatch_no_file_wget toyH ⟨1300, nm, 30, toyH f5, 0⟩ .none (some [1, 2, 3]) FS.empty (by decide) (by decide)
    (fun b hb => by cases hb; decide) (by decide)).2.1
example : (wget toyH ⟨1300, nm, 30, [], 6⟩ .none (some f5) FS.empty).fs nm = some f5 ∧
    (wget toyH ⟨1300, nm, 30, [], 6⟩ .none (some f5) FS.empty).owner = .err :=
  wget_length_mismatch_keeps_file toyH ⟨1300, nm, 30, [], 6⟩ f5 FS.empty (by decide) (Or.inl rfl) (by decide) (by decide)

/-- The same upload inputs on the tree as found. -/
example : (upload .original toyH up f5 ⟨fun n => n + 1, id, fun _ c => c⟩ FS.empty).owner = .stall :=
  (upload_overlength_stalls_original toyH up f5 ⟨fun n => n + 1, id, fun _ c => c⟩ FS.empty
    (by decide) (by decide) (by decide)).2.1
example : (upload .original toyH up [] .none FS.empty).owner = .stall :=
  (upload_empty_stalls_original toyH up FS.empty (by decide)).2

end Fdo.Props.C17
