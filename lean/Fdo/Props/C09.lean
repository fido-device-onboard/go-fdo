import Fdo.Gen.Kex
import Fdo.Kex.Spec
import Fdo.Facts
/-
C09 — every supported crypto configuration onboards; forbidden ones are refused.
The quantifier is a finite product, decided by executing the whole product (thorough tier of the
harness: 2352 tuples) against the expected outcome computed from the library's own validity
tables; the theorems here tie those regenerated tables to FDO 1.1 §3.6.5.
-/
namespace Fdo.Props.C09
open Fdo Fdo.Kex

/-- The table obtained by executing `kex.Suite.Valid` over every (suite, device signature
algorithm, owner key kind) agrees with the specification's rules on every ECDSA-device row. -/
theorem suiteValid_ec_eq_spec :
    (Fdo.Gen.Kex.suiteValid.all fun r =>
      !(r.2.1 == "ES256" || r.2.1 == "ES384") || (r.2.2.2 == specValidEc r.1 r.2.2.1)) = true := by decide +kernel

/-- For RSA device keys (not covered by the specification's table) the library accepts every
registered key exchange: this is the expected outcome the product run is checked against. -/
theorem suiteValid_rsa_device_unconstrained :
    (Fdo.Gen.Kex.suiteValid.all fun r =>
      !(r.2.1 == "RS256" || r.2.1 == "RS384" || r.2.1 == "PS256" || r.2.1 == "PS384") || r.2.2.2) = true := by decide +kernel

/-- The table is complete: 6 suites × 6 device algorithms × 4 owner key kinds. -/
theorem suiteValid_complete : Fdo.Gen.Kex.suiteValid.length = 144 := by decide +kernel

/-- Exactly the seven FDO cipher suites are available; the declared AES-CCM identifiers are not
registered, so requesting them is refused by both sides rather than negotiated. -/
theorem available_ciphers :
    Fdo.Gen.Kex.cipherSuites.map (·.id) = [-17760706, -17760705, -17760704, -17760703, 1, 2, 3] ∧
    (Fdo.Gen.Kex.declaredCipherIds.all fun d => d.2.2 == (Fdo.Gen.Kex.cipherSuites.map (·.id)).contains d.1) = true :=
  ⟨rfl, by decide +kernel⟩

/-- Exactly the six key exchanges are registered. -/
theorem registered_suites :
    Fdo.Gen.Kex.registeredSuites = ["ECDH256", "ECDH384", "DHKEXid14", "DHKEXid15", "ASYMKEX2048", "ASYMKEX3072"] :=
  rfl

/-- **Both sides consult the same validity table before going on** (regenerated call-order facts): the owner's
`proveOVHdr` checks `Suite.Valid` and cipher availability before it creates and stores the key-exchange session
and signs its answer; the device's `verifyOwner` checks them after ProveOVHdr and before it fetches and verifies
the voucher — so a combination the table forbids is refused by whichever side sees it first, never replaced. -/
theorem code_facts :
    Fdo.Facts.allBefore "TO2Server.proveOVHdr" ["Valid", "Available"] "Parameter" = true ∧
    Fdo.Facts.allBefore "TO2Server.proveOVHdr" ["Valid", "Available"] "SetXSession" = true ∧
    Fdo.Facts.allBefore "TO2Server.proveOVHdr" ["Valid", "Available"] "Sign" = true ∧
    Fdo.Facts.allBefore "verifyOwner" ["sendHelloDevice", "Valid", "Available"] "verifyVoucher" = true := by decide +kernel

end Fdo.Props.C09
