import Fdo.Proto.TO0
import Fdo.Facts
/-
C06 — the rendezvous server registers a redirect only for the voucher's current owner.
Hash, voucher-entry verification and the to1d signature check are universally quantified
oracles; `entriesOK` is characterised by C04 (`verifyEntries_iff`), `to1dSigOK` by C13.
-/
namespace Fdo.Props.C06
open Fdo Fdo.Proto

/-- A registration happens exactly when every listed condition holds: to1d carries its
payload, the hash algorithm is known and the hash of the (re-encoded) to0d equals the hash inside
the blob, the voucher has at least one entry and its entry chain verifies, the to0d nonce is the
one this session issued, the blob is signed by the voucher's *current owner key*, and the TTL
policy (if any) yields a non-zero value. -/
theorem acceptOwner_accept_iff (hashFunc : Int → Option (Bytes → Bytes)) (entriesOK : VoucherView → Bool)
    (sigOK : Bytes → OwnerSignView → Bool) (sn : Option Bytes) (policy : Policy) (now : Nat)
    (m : OwnerSignView) (ttl exp : Nat) :
    acceptOwner hashFunc entriesOK sigOK sn policy now m = .accept ttl exp ↔
      m.to1dPresent = true ∧
      (∃ H, hashFunc m.hashAlg = some H ∧ H m.to0dBytes = m.hashVal) ∧
      m.voucher.entries ≠ [] ∧ entriesOK m.voucher = true ∧
      sn = some m.nonce ∧
      sigOK (ownerKey m.voucher) m = true ∧
      (match policy with
       | none => ttl = m.waitSeconds
       | some f => f m.waitSeconds = some ttl ∧ ttl ≠ 0) ∧
      exp = now + ttl := by
  constructor
  · -- every end of `acceptOwner` but two is `.reject`: `cases h` closes those and leaves the two that accept, without a
    -- policy and with one that grants a non-zero time; the guards passed on the way give the conjuncts, in order (`h1`, `hn`
    -- are guards of the form `x ≠ y` that were not taken, hence `of_not_not`)
    fun_cases acceptOwner hashFunc entriesOK sigOK sn policy now m <;> intro h <;> cases h
    next hp H hh h1 he hv n hn hs =>
      exact ⟨by simpa using hp, ⟨H, hh, Decidable.of_not_not h1⟩, by simpa using he, by simpa using hv,
        congrArg some (Decidable.of_not_not hn).symm, by simpa using hs, rfl, rfl⟩
    next hp H hh h1 he hv n hn hs f hf ht =>
      exact ⟨by simpa using hp, ⟨H, hh, Decidable.of_not_not h1⟩, by simpa using he, by simpa using hv,
        congrArg some (Decidable.of_not_not hn).symm, by simpa using hs, ⟨hf, ht⟩, rfl⟩
  · rintro ⟨hp, ⟨H, hh, h1⟩, he, hv, rfl, hs, hpol, rfl⟩
    unfold acceptOwner
    cases policy with
    | none => simp [hp, hh, h1, he, hv, hs, hpol]
    | some f => simp [hp, hh, h1, he, hv, hs, hpol.1, hpol.2]

/-- The stored expiry is the accepted time-to-live added to the current time, the reply carries
that same value, and with a policy callback it is the callback's non-zero value. -/
theorem stored_expiry_eq (hashFunc : Int → Option (Bytes → Bytes)) (entriesOK : VoucherView → Bool)
    (sigOK : Bytes → OwnerSignView → Bool) (sn : Option Bytes) (policy : Policy) (now : Nat)
    (m : OwnerSignView) (ttl exp : Nat)
    (h : acceptOwner hashFunc entriesOK sigOK sn policy now m = .accept ttl exp) :
    exp = now + ttl ∧ (∀ f, policy = some f → f m.waitSeconds = some ttl ∧ ttl ≠ 0) ∧
      (policy = none → ttl = m.waitSeconds) := by
  have := (acceptOwner_accept_iff hashFunc entriesOK sigOK sn policy now m ttl exp).mp h
  obtain ⟨_, _, _, _, _, _, hpol, hexp⟩ := this
  refine ⟨hexp, ?_, ?_⟩
  · intro f hf; subst hf; exact hpol
  · intro hn; subst hn; exact hpol

/-- A signer other than the current owner — an earlier owner in the chain, the manufacturer, a
stranger holding a copy of the voucher — is refused: if the blob does not verify under the
voucher's current owner key nothing is registered. -/
theorem foreign_signer_rejected (hashFunc : Int → Option (Bytes → Bytes)) (entriesOK : VoucherView → Bool)
    (sigOK : Bytes → OwnerSignView → Bool) (sn : Option Bytes) (policy : Policy) (now : Nat)
    (m : OwnerSignView) (h : sigOK (ownerKey m.voucher) m = false) :
    acceptOwner hashFunc entriesOK sigOK sn policy now m = .reject := by
  cases hr : acceptOwner hashFunc entriesOK sigOK sn policy now m with
  | reject => rfl
  | accept ttl exp =>
    have := (acceptOwner_accept_iff hashFunc entriesOK sigOK sn policy now m ttl exp).mp hr
    rw [h] at this; simp at this

/-- An OwnerSign replayed in another session (whose nonce differs) is refused. -/
theorem stale_nonce_rejected (hashFunc : Int → Option (Bytes → Bytes)) (entriesOK : VoucherView → Bool)
    (sigOK : Bytes → OwnerSignView → Bool) (n : Bytes) (policy : Policy) (now : Nat)
    (m : OwnerSignView) (h : m.nonce ≠ n) :
    acceptOwner hashFunc entriesOK sigOK (some n) policy now m = .reject := by
  cases hr : acceptOwner hashFunc entriesOK sigOK (some n) policy now m with
  | reject => rfl
  | accept ttl exp =>
    have := (acceptOwner_accept_iff hashFunc entriesOK sigOK (some n) policy now m ttl exp).mp hr
    obtain ⟨_, _, _, _, hn, _⟩ := this
    simp at hn; exact absurd hn.symm h

/-- Non-vacuity: an OwnerSign meeting all conditions is accepted with the policy's TTL. -/
example :
    let v : VoucherView := ⟨[], [], [], [1], 5, [], [], none, none, [⟨[], true, [], -16, [], -16, [], [9], [], []⟩]⟩
    let m : OwnerSignView := ⟨[7], v, 100, [4, 2], true, [], [], [], -16, [1]⟩
    acceptOwner (fun _ => some (fun b => [UInt8.ofNat b.length])) (fun _ => true) (fun k _ => k == [9])
      (some [4, 2]) (some fun r => some (r / 2)) 1000 m = .accept 50 1050 := by
  decide +kernel


/-- **What the source does, in which order** (regenerated call-order facts of
`TO0Server.acceptOwner`): the to0d hash comparison, the entry-chain verification, the session-nonce
comparison and the to1d signature verification under the voucher's owner key all precede the
acceptance policy and the storing of the blob. -/
theorem code_facts :
    Fdo.Facts.allBefore "TO0Server.acceptOwner" ["Equal", "VerifyEntries", "TO0SignNonce", "OwnerPublicKey", "Verify"] "SetRVBlob" = true ∧
    Fdo.Facts.before "TO0Server.acceptOwner" "OwnerPublicKey" "Verify" = true ∧
    Fdo.Facts.before "TO0Server.acceptOwner" "Verify" "AcceptVoucher" = true ∧
    Fdo.Facts.before "TO0Server.acceptOwner" "AcceptVoucher" "SetRVBlob" = true ∧
    Fdo.Facts.atLeast "TO0Server.acceptOwner" "Equal" 2 = true := by decide +kernel

end Fdo.Props.C06
