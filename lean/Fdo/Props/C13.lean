import Fdo.Cose.Sign1Proofs
import Fdo.Cbor.TypedProofs
import Fdo.Gen.Schemas
import Fdo.Cbor.Proofs
import Fdo.Gen.Cose
/-
C13 — COSE signatures and MACs verify exactly what was signed, with the right key.
The asymmetric primitive is an oracle: the theorems say which bytes, which algorithm and
which (r, s) reach it, that distinct (protected, aad, payload) never share to-be-signed
bytes, and that no input makes the verification logic panic.
-/
namespace Fdo.Props.C13
open Fdo Fdo.Cbor Fdo.Cose

private def tbsItem (ctx prot aad payload : Bytes) : Item :=
  .arr (.cons (.tstr ctx) (.cons (.bstr prot) (.cons (.bstr aad) (.cons (.bstr payload) .nil))))

private theorem tbsItem_wf (ctx prot aad payload : Bytes)
    (h0 : ctx.length < maxLen) (h1 : prot.length < maxLen) (h2 : aad.length < maxLen) (h3 : payload.length < maxLen) :
    (tbsItem ctx prot aad payload).WF := by
  simp [tbsItem, Item.WF, Items.WF, Items.length, maxLen] at *
  omega

/-- Sig_structure / MAC_structure is injective: if two (context, protected, external data,
payload) quadruples (each part shorter than the decode limit) give the same to-be-signed bytes
they are the same quadruple. Any change to protected header, external AAD or payload therefore
changes what the primitive is asked to verify. -/
theorem toBeSigned_injective (c p a pl c' p' a' pl' : Bytes)
    (h0 : c.length < maxLen) (h1 : p.length < maxLen) (h2 : a.length < maxLen) (h3 : pl.length < maxLen)
    (h0' : c'.length < maxLen) (h1' : p'.length < maxLen) (h2' : a'.length < maxLen) (h3' : pl'.length < maxLen)
    (h : toBeSigned c p a pl = toBeSigned c' p' a' pl') : c = c' ∧ p = p' ∧ a = a' ∧ pl = pl' := by
  have := Cbor.encode_injective (tbsItem_wf c p a pl h0 h1 h2 h3) (tbsItem_wf c' p' a' pl' h0' h1' h2' h3') h
  simpa [tbsItem] using this

/-- Fixed-width r‖s: both halves are recovered exactly, leading zero bytes included. -/
theorem rs_roundtrip (n r s : Nat) (hr : r < 256 ^ n) (hs : s < 256 ^ n) :
    rsDecode n (rsEncode n r s) = (r, s) := by
  unfold rsDecode rsEncode
  rw [List.take_left' (natBE_length n r), List.drop_left' (natBE_length n r)]
  rw [beNat_natBE n r hr, beNat_natBE n s hs]

theorem rsEncode_length (n r s : Nat) : (rsEncode n r s).length = 2 * n := by
  simp [rsEncode]; omega

/-- Acceptance shape (ECDSA): whenever verification reaches the primitive it is asked about
exactly the Sig_structure of this object's protected header, the given external data and the
payload, under a registered algorithm, with a signature of exactly twice the curve size split
in the middle. -/
theorem verify_reaches_ecdsa_only_with (sigAlgs : List (Int × Nat)) (prot : List (Val × AnyVal))
    (pl : Option Bytes) (sig aad : Bytes) (n bits : Nat) (tbs : Bytes) (r s : Nat)
    (h : sign1Verify sigAlgs prot pl sig aad (.ec n) = .ecdsa bits tbs r s) :
    ∃ p alg, pl = some p ∧ hdrGet prot 1 = some (.int alg) ∧ (alg, bits) ∈ sigAlgs ∧
      tbs = toBeSigned ctxSignature1 (encProtected prot) aad p ∧
      sig.length = 2 * n ∧ (r, s) = rsDecode n sig := by
  rcases sign1Verify_cases sigAlgs prot pl sig aad (.ec n) with hr | ⟨p, alg, b, hp, ha, hm, hk⟩
  · rw [hr] at h; cases h
  · rcases hk with ⟨n', hn, hl, he⟩ | ⟨_, hn, _⟩
    · cases hn
      cases he.symm.trans h
      exact ⟨p, alg, hp, ha, hm, rfl, hl, rfl⟩
    · cases hn

/-- Acceptance shape (RSA): same, and the padding scheme is the one the algorithm id names. -/
theorem verify_reaches_rsa_only_with (sigAlgs : List (Int × Nat)) (prot : List (Val × AnyVal))
    (pl : Option Bytes) (sig aad : Bytes) (pad : RsaPad) (bits : Nat) (tbs sg : Bytes)
    (h : sign1Verify sigAlgs prot pl sig aad .rsa = .rsa pad bits tbs sg) :
    ∃ p alg, pl = some p ∧ hdrGet prot 1 = some (.int alg) ∧ (alg, bits) ∈ sigAlgs ∧
      rsaPadOf alg = some pad ∧ tbs = toBeSigned ctxSignature1 (encProtected prot) aad p ∧ sg = sig := by
  rcases sign1Verify_cases sigAlgs prot pl sig aad .rsa with hr | ⟨p, alg, b, hp, ha, hm, hk⟩
  · rw [hr] at h; cases h
  · rcases hk with ⟨_, hn, _⟩ | ⟨pd, _, hpd, he⟩
    · cases hn
    · cases he.symm.trans h
      exact ⟨p, alg, hp, ha, hm, hpd, rfl, rfl⟩

/-- Verification logic never panics: every input ends in a query to the primitive or a reject. -/
theorem verify_never_panics (sigAlgs : List (Int × Nat)) (prot : List (Val × AnyVal))
    (pl : Option Bytes) (sig aad : Bytes) (k : KeyKind) (site : String) :
    sign1Verify sigAlgs prot pl sig aad k ≠ .panic site := by
  fun_cases sign1Verify sigAlgs prot pl sig aad k <;> nofun

/-- An honestly produced ECDSA object reaches the primitive with its own r and s. -/
theorem honest_ecdsa_reaches_primitive (sigAlgs : List (Int × Nat)) (alg : Int) (bits n r s : Nat)
    (p aad : Bytes) (hn : 1 ≤ n) (hr : r < 256 ^ n) (hs : s < 256 ^ n)
    (hreg : sigAlgs.find? (fun q => q.1 = alg) = some (alg, bits))
    (hrange : ¬ (alg < -9223372036854775808 ∨ alg > 9223372036854775807)) :
    sign1Verify sigAlgs [(.int 1, .int alg)] (some p) (rsEncode n r s) aad (.ec n) =
      .ecdsa bits (toBeSigned ctxSignature1 (encProtected [(.int 1, .int alg)]) aad p) r s := by
  have hl := rsEncode_length n r s
  have hrt := rs_roundtrip n r s hr hs
  unfold sign1Verify
  rw [hl, if_neg (by omega), if_neg (by omega), hdrGet_one]
  dsimp only
  rw [if_neg hrange, hreg]
  dsimp only
  rw [if_neg (fun h => h rfl), hrt]

/-- The registry regenerated from the code is the table of RFC 8152/8230 algorithms with the
hash each one names. -/
theorem gen_sigAlgs_table : Fdo.Gen.Cose.sigAlgs =
    [(-259, 512), (-258, 384), (-257, 256), (-39, 512), (-38, 384), (-37, 256), (-36, 512), (-35, 384), (-7, 256)] :=
  rfl

/-- Non-vacuity: ES256 over a P-256 key with a 64-byte signature reaches the primitive. -/
example : (match sign1Verify Fdo.Gen.Cose.sigAlgs [(.int 1, .int (-7))] (some [1, 2, 3])
    (List.replicate 64 7) [] (.ec 32) with | .ecdsa 256 _ _ _ => true | _ => false) = true := by
  decide +kernel

/-- **A COSE_Sign1 / COSE_Mac0 object is after encoding, transmission and decoding the object that was
produced**: `cbor.Unmarshal(cbor.Marshal(obj))` yields the same protected and unprotected headers, payload
and signature/tag (typed round trip of C11 on the regenerated schemas of `cose.Sign1Tag` and `cose.Mac0Tag`),
so verification on the receiving side asks the primitive about exactly what the sender signed — for every
conforming object (labels in encoding order with scalar values, byte strings within the limits). -/
theorem cose_objects_survive_transmission (ok : Fdo.Cbor.CertOracle) (v : Fdo.Cbor.Val) (b : Bytes)
    (hl : b.length < 18446744073709551616) :
    (Fdo.Cbor.marshalS Fdo.Gen.Schemas.s_Sign1Tag_Raw_ v = some b →
      Fdo.Cbor.conf ok 10000 Fdo.Cbor.maxDepth Fdo.Gen.Schemas.s_Sign1Tag_Raw_ v = true →
      Fdo.Cbor.unmarshalS ok Fdo.Gen.Schemas.s_Sign1Tag_Raw_ b = some v) ∧
    (Fdo.Cbor.marshalS Fdo.Gen.Schemas.s_Mac0Tag v = some b →
      Fdo.Cbor.conf ok 10000 Fdo.Cbor.maxDepth Fdo.Gen.Schemas.s_Mac0Tag v = true →
      Fdo.Cbor.unmarshalS ok Fdo.Gen.Schemas.s_Mac0Tag b = some v) :=
  ⟨fun hm hc => Fdo.Cbor.unmarshalS_marshalS ok _ v b (by decide +kernel) (by decide +kernel) hm hc hl,
   fun hm hc => Fdo.Cbor.unmarshalS_marshalS ok _ v b (by decide +kernel) (by decide +kernel) hm hc hl⟩

end Fdo.Props.C13
