import Fdo.Svc.ChunkProofs
/-
C15 — service-info chunking is lossless, ordered and within the MTU.

Model: Fdo/Svc/Chunk.lean (sequential stream functions mirroring serviceinfo/chunk.go and the
packing loop of to2.go exchangeServiceInfoRound); helper lemmas: Fdo/Svc/ChunkProofs.lean.

The theorems about `Variant.repaired` describe the code after the two repairs
  fix: serviceinfo: keep a message whose key does not fit the space left for the next ReadChunk
  fix: serviceinfo: a forced message break before any chunk of a message no longer ends the round
`Variant.original` is the tree as found; for it the property is false, see the `…_original`
regression theorems at the end (each is a concrete small script and MTU on which the harness
shows the same behaviour on the unrepaired library).

Not proved here (modelled, see DESIGN §3): goroutine interleavings and the blocking behaviour of
io.Pipe / bufPipe / channels.  The model is the stream function; that the code computes it under
every schedule tried is evidenced by the correspondence run (buffered/unbuffered pipes, 1-byte and
empty writes, injected Gosched/sleeps, GOMAXPROCS 1/2/n).
-/
namespace Fdo.Props.C15
open Fdo Fdo.Svc.Chunk

/-- Every KV returned by `ReadChunk(size)` encodes to at most `size` bytes and carries at least
one value byte.  Holds for every variant, every state, every `size` (also below 7). -/
theorem chunk_fits (V : Variant) (st : St) (size : Nat) (c : KV) (st' : St)
    (h : readChunk V st size = (.kv c, st')) : kvSize c ≤ size ∧ 1 ≤ c.val.length :=
  readChunk_fits h

/-- The `uint16` arithmetic of the packing loop is exact: `maxRead -= chunk.Size()` never wraps
and `KV.Size` never overflows, because the KV fits what was left. -/
theorem budget_uint16_exact (V : Variant) (st : St) (size : Nat) (c : KV) (st' : St)
    (hs : size < 65536) (h : readChunk V st size = (.kv c, st')) :
    kvSize c < 65536 ∧ size - kvSize c = (size + 65536 - kvSize c % 65536) % 65536 := by
  have hfit := (readChunk_fits h).1
  have hk : kvSize c < 65536 := by omega
  refine ⟨hk, ?_⟩
  omega

/-- Every DeviceServiceInfo message of the round stays within the budget: its chunks sum to at
most `mtu` (the value the round function is given) and the encoded message — array-of-two head,
the IsMore flag, the array head of up to three bytes — to at most `mtu + 5`, which is the
negotiated size TO2 subtracted 5 from.  Every variant, every script. -/
theorem batch_fits (V : Variant) (mtu : Nat) (s : Script) :
    ∀ b ∈ (allBatches V mtu s).batches, sumSize b.kvs ≤ mtu ∧ msgSize b.kvs ≤ mtu + 5 := by
  intro b hb
  have h := rounds_sum V mtu _ _ b hb
  refine ⟨h, ?_⟩
  unfold msgSize arraySize
  have := arrHead_le b.kvs.length
  omega

/-- LOSSLESS, full strength, for the repaired code: for every budget in the usable range (each
key fits an empty message with one value byte), every script — any number of messages, any key
and value lengths, yields anywhere (leading, doubled, trailing, after a full message) — the round
drains the pipe, never fails, and the consumer behind `ChunkWriter`/`UnchunkReader` receives
exactly the script's messages in order with consecutive equal keys concatenated. -/
theorem lossless (mtu : Nat) (s : Script) (hu : UsableMtu mtu s) :
    (allBatches .repaired mtu s).fin = .done ∧
    reassemble (flatten (allBatches .repaired mtu s).batches) = .ok (mergeConsecutive (messages s)) := by
  obtain ⟨hd, hk, hm⟩ := lossless_repaired mtu s hu
  exact ⟨hd, by rw [reassemble_eq_merge _ hk, hm]⟩

/-- Nothing is lost whenever the round reaches the end of the channel — also without the second
repair (`skipLeadingBreak = false`), for any budget, as long as keys are read in full.  This is
the part of `lossless` that does not depend on how forced breaks are treated. -/
theorem lossless_if_drained (skip : Bool) (mtu : Nat) (s : Script)
    (hk : ∀ k b, Step.msg k b ∈ s → k ≠ [] ∧ rawKeyLen k ≤ 65535)
    (hd : (allBatches ⟨fun _ => 65535, skip⟩ mtu s).fin = .done) :
    reassemble (flatten (allBatches ⟨fun _ => 65535, skip⟩ mtu s).batches) =
      .ok (mergeConsecutive (messages s)) := by
  obtain ⟨hne, hm⟩ := lossless_of_done _ mtu s (fun k b hm => ⟨(hk k b hm).1, fun _ => keyRead_ok _ k (hk k b hm).2⟩) hd
  rw [reassemble_eq_merge _ hne, hm]

/-- AN EXPLICIT YIELD STARTS A NEW MESSAGE, and nothing else about the batching changes: the
non-empty messages (as lists of chunks) of a script with a yield in it are those of the part
before the yield followed by those of the part after it, each part batched on its own from a
fresh budget.  So no message carries a chunk from before and a chunk from after the yield, wherever
the yield stands (first, last, doubled, right after a message that used its budget up). -/
theorem yield_starts_new_batch (mtu : Nat) (pre post : Script) (hu : UsableMtu mtu (pre ++ .yield :: post)) :
    groups (allBatches .repaired mtu (pre ++ .yield :: post)).batches =
      groups (allBatches .repaired mtu pre).batches ++ groups (allBatches .repaired mtu post).batches :=
  yield_groups mtu pre post hu

/-- Locally, for every variant: when the message being filled already holds a chunk
(`maxRead ≠ mtu`, and for the repaired code the reader's `inMessage` flag set) and the next reader
in the channel is a forced break, the message is closed there with IsMore = true and the next
message starts from the reader after the break. -/
theorem yield_closes_message (V : Variant) (mtu f maxRead : Nat) (q : Script) (h : maxRead ≠ mtu) :
    pack V mtu (f + 1) maxRead ⟨.yield :: q, none, true⟩ = ([], .more, ⟨q, none, false⟩) := by
  simp [pack, readChunk, readNext, h]

/-- The result depends on the bytes written, not on how a module split them into `Write` calls:
one write of `parts.flatten` and the writes `parts` one after another (empty writes included)
give the same readers, hence the same messages, chunks and reassembly.  Together with blocking
reads this is the schedule-independence argument. -/
theorem split_of_writes_irrelevant (V : Variant) (mtu : Nat) (pre post : List Op) (parts : List Bytes) :
    allBatches V mtu (compile (pre ++ .write parts.flatten :: post)) =
      allBatches V mtu (compile (pre ++ (parts.map Op.write ++ post))) := by
  rw [compile_parts]

/-! ### non-vacuity -/

private def kA : Bytes := [97, 58, 98]          -- "a:b"
private def kB : Bytes := [99, 58, 100, 101]    -- "c:de"
private def ex1 : Script :=
  [.yield, .msg kA [1, 2, 3, 4, 5, 6, 7, 8, 9, 10, 11, 12, 13, 14, 15, 16], .msg kB [20, 21, 22], .yield, .yield,
   .msg kB [23], .msg kA [30]]

/-- The guard of `lossless` is satisfiable by a script with leading, doubled and inner yields that
needs several messages at budget 25 (negotiated size 30). -/
example : UsableMtu 25 ex1 := by decide +kernel

example : (allBatches .repaired 25 ex1).batches.length = 3 := by decide +kernel

example : reassemble (flatten (allBatches .repaired 25 ex1).batches) =
    .ok [(kA, [1, 2, 3, 4, 5, 6, 7, 8, 9, 10, 11, 12, 13, 14, 15, 16]), (kB, [20, 21, 22, 23]), (kA, [30])] := by
  decide +kernel

/-- `yield_starts_new_batch` on a concrete script: "a:b" with 16 bytes, "c:de" with 3 bytes, yield,
"c:de" with 1 byte at budget 25. Without the yield the last byte would share a message. -/
example : groups (allBatches .repaired 25
      [.msg kA [1, 2, 3, 4, 5, 6, 7, 8, 9, 10, 11, 12, 13, 14, 15, 16], .msg kB [20, 21, 22], .yield, .msg kB [23]]).batches =
    [[⟨kA, [1, 2, 3, 4, 5, 6, 7, 8, 9, 10, 11, 12, 13, 14, 15, 16]⟩], [⟨kB, [20, 21, 22]⟩], [⟨kB, [23]⟩]] := by
  decide +kernel
example : groups (allBatches .repaired 25
      [.msg kA [1, 2, 3, 4, 5, 6, 7, 8, 9, 10, 11, 12, 13, 14, 15, 16], .msg kB [20, 21, 22], .msg kB [23]]).batches =
    [[⟨kA, [1, 2, 3, 4, 5, 6, 7, 8, 9, 10, 11, 12, 13, 14, 15, 16]⟩], [⟨kB, [20, 21, 22]⟩, ⟨kB, [23]⟩]] := by
  decide +kernel

/-- `chunk_fits` is not vacuous: a read that returns a KV. -/
example : ∃ c st', readChunk .repaired (St.init ex1) 25 = (.kv c, st') := ⟨_, _, rfl⟩

/-! ### the tree as found (regression witnesses for the two repairs)

Full-strength statement that is FALSE for `Variant.original`:
  theorem lossless_original (mtu s) (hu : UsableMtu mtu s) :
    (allBatches .original mtu s).fin = .done ∧
    reassemble (flatten (allBatches .original mtu s).batches) = .ok (mergeConsecutive (messages s))
-/

/-- Remainder window, silent loss: budget 25, after the first message 8 bytes are left; the key of
the second message ("a:b", 4 bytes encoded) is read through a limit of 8-7 = 1 byte, the decoder
sees EOF after the head, the reader is dropped: the second message never arrives and nothing fails. -/
theorem lossless_fails_window_original :
    UsableMtu 25 [.msg kA [0, 1, 2, 3, 4, 5, 6, 7, 8, 9, 10], .msg kA [170, 187, 204]] ∧
    (allBatches .original 25 [.msg kA [0, 1, 2, 3, 4, 5, 6, 7, 8, 9, 10], .msg kA [170, 187, 204]]).fin = .done ∧
    reassemble (flatten (allBatches .original 25
      [.msg kA [0, 1, 2, 3, 4, 5, 6, 7, 8, 9, 10], .msg kA [170, 187, 204]]).batches) =
      .ok [(kA, [0, 1, 2, 3, 4, 5, 6, 7, 8, 9, 10])] := by decide +kernel

/-- Remainder window, failed exchange: with 10 bytes left the limit is 3, the key is cut in the
middle, `ReadChunk` returns an unexpected EOF and the round returns the error. -/
theorem exchange_fails_window_original :
    UsableMtu 25 [.msg kA [0, 1, 2, 3, 4, 5, 6, 7, 8], .msg kA [170, 187, 204]] ∧
    (allBatches .original 25 [.msg kA [0, 1, 2, 3, 4, 5, 6, 7, 8], .msg kA [170, 187, 204]]).fin = .failed := by
  decide +kernel

/-- A forced break before the first chunk of a message ends the round: one empty message with
IsMore = false is sent and the three value bytes stay in the pipe. -/
theorem leading_yield_abandons_original :
    (allBatches .original 25 [.yield, .msg kA [1, 2, 3]]).batches = [⟨false, []⟩] ∧
    (allBatches .original 25 [.yield, .msg kA [1, 2, 3]]).fin = .stopped ∧
    (allBatches .original 25 [.yield, .msg kA [1, 2, 3]]).st.weight = 3 := by decide +kernel

/-- The same three inputs on the repaired code (instances of `lossless`). -/
example : reassemble (flatten (allBatches .repaired 25
    [.msg kA [0, 1, 2, 3, 4, 5, 6, 7, 8, 9, 10], .msg kA [170, 187, 204]]).batches) =
    .ok [(kA, [0, 1, 2, 3, 4, 5, 6, 7, 8, 9, 10, 170, 187, 204])] := by decide +kernel
example : (allBatches .repaired 25 [.msg kA [0, 1, 2, 3, 4, 5, 6, 7, 8], .msg kA [170, 187, 204]]).fin = .done := by
  decide +kernel
example : reassemble (flatten (allBatches .repaired 25 [.yield, .msg kA [1, 2, 3]]).batches) = .ok [(kA, [1, 2, 3])] := by
  decide +kernel

end Fdo.Props.C15
