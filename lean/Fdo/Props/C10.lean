import Fdo.Proto.Endpoint
import Fdo.Proto.EndpointProofs
import Fdo.Gen.Proto
import Fdo.Gen.Endpoint
/-
C10 — no peer-supplied bytes can crash, hang or exhaust a protocol endpoint.

The theorems cover the sites where go-fdo indexes, allocates, dereferences, converts or
dispatches with a peer-supplied value (model: Fdo/Proto/Endpoint.lean).  For every site:
`…_never_panics` (for all inputs the repaired code answers a value or an error), where useful
an exact characterisation of the accepted inputs, an allocation bound, and `…_v0_…_witness`:
the concrete input on which the tree as found panicked / hung / answered Message-Type 0.
Table theorems (`gen_…`) tie the model's dispatch, registry and limits to what the current code
does (Fdo/Gen/Endpoint.lean and Fdo/Gen/Proto.lean are regenerated by executing it).

What is not a theorem here: that the Go code has no *other* panic site.  That is what the
correspondence run of this property (every message position × structure-aware mutants, under
recover / watchdog / allocation counters) is for.
-/
namespace Fdo.Props.C10
open Fdo Fdo.Proto.Endpoint

/-! ### TO2.GetOVNextEntry index -/

theorem ovNextEntry_never_panics (len : Nat) (n : Int) : (ovNextEntry len n).safe = true := by
  fun_cases ovNextEntry len n <;> rfl

/-- An entry is returned exactly for 0 ≤ n < len, and it is entry n. -/
theorem ovNextEntry_ok_iff (len : Nat) (n : Int) (i : Nat) :
    ovNextEntry len n = .ok i ↔ 0 ≤ n ∧ n < (len : Int) ∧ i = n.toNat := by
  unfold ovNextEntry
  constructor
  · intro h
    split at h
    · cases h
    · injection h with h
      exact ⟨by omega, by omega, h.symm⟩
  · rintro ⟨h0, h1, rfl⟩
    have : ¬ (n < 0 ∨ (len : Int) ≤ n) := by omega
    simp [this]

/-- As found: the index equal to the number of entries, and any negative index, panicked. -/
theorem ovNextEntry_v0_panics_witness :
    ovNextEntryV0 2 2 = .panic "to2.go:ovNextEntry:index out of range" ∧
    ovNextEntryV0 2 (-1) = .panic "to2.go:ovNextEntry:index out of range" :=
  ⟨rfl, rfl⟩

/-! ### devmod owner module -/

theorem devmodStep_never_panics (mods : List String) (m : DevmodMsg) : (devmodStep mods m).safe = true := by
  fun_cases devmodStep mods m <;> rfl

/-- A modules chunk never changes the length of the list announced by nummodules. -/
theorem devmod_chunk_keeps_length (mods : List String) (s l : Int) (ns mods' : List String)
    (h : devmodStep mods (.chunk s l ns) = .ok mods') : mods'.length = mods.length := by
  simp only [devmodStep] at h
  split at h
  · cases h
  · split at h
    · cases h
    · injection h with h
      subst h
      simp only [List.length_append, List.length_take, List.length_drop]
      omega

/-- Allocation bound of one message: the list kept in the session never exceeds 65535 entries. -/
theorem devmodStep_alloc_bounded (mods : List String) (m : DevmodMsg) (mods' : List String)
    (hb : devmodAlloc mods ≤ maxDevmodModules) (h : devmodStep mods m = .ok mods') :
    devmodAlloc mods' ≤ maxDevmodModules := by
  cases m with
  | num n =>
    simp only [devmodStep] at h
    split at h
    · cases h
    · injection h with h
      subst h
      simp only [devmodAlloc, List.length_replicate]
      omega
  | chunk s l ns =>
    have := devmod_chunk_keeps_length mods s l ns mods' h
    simp only [devmodAlloc] at *
    omega

theorem devmodRun_never_panics (mods : List String) (ms : List DevmodMsg) : (devmodRun mods ms).safe = true := by
  -- the five ends of `devmodRun` (and of `writeChunks` below): 1 no message left; 2 the step is `ok` and the run goes on;
  -- 3, 4, 5 the step's `err`, `panic`, `hang` passed on.  The step returns neither of the last two, so 4 and 5 cannot occur
  fun_induction devmodRun mods ms
  case case2 ih => exact ih
  case case4 h | case5 h => exact h ▸ devmodStep_never_panics ..
  all_goals rfl

/-- Whatever sequence of devmod messages a device sends, in one TO2.DeviceServiceInfo or
spread over many, the owner never holds more than 65535 module slots for it. -/
theorem devmodRun_alloc_bounded (mods : List String) (ms : List DevmodMsg) (mods' : List String)
    (hb : devmodAlloc mods ≤ maxDevmodModules) (h : devmodRun mods ms = .ok mods') :
    devmodAlloc mods' ≤ maxDevmodModules := by
  revert h
  fun_induction devmodRun mods ms
  case case1 => intro h; cases h; exact hb
  case case2 hd ih => exact ih (devmodStep_alloc_bounded _ _ _ hb hd)
  all_goals nofun

/-- As found: a negative nummodules and a chunk reaching beyond the list panicked, and a 30-byte
message made the owner keep 4194304 slots (64 MiB). -/
theorem devmod_v0_panics_witness :
    devmodStepV0 [] (.num (-1)) = .panic "devmod.go:HandleInfo:makeslice: len out of range" ∧
    devmodStepV0 [""] (.chunk 0 2 ["a", "b"]) = .panic "devmod.go:parseModules:slice bounds out of range" ∧
    (∃ mods, devmodStepV0 [] (.num 4194304) = .ok mods ∧ maxDevmodModules < devmodAlloc mods) := by
  refine ⟨rfl, rfl, List.replicate 4194304 "", rfl, ?_⟩
  simp only [devmodAlloc, List.length_replicate, maxDevmodModules]
  omega

/-! ### HTTP handler: routing -/

/-- The handler never answers Message-Type 0 and never panics while routing. -/
theorem route_never_type0_nor_panics (m p a : Bytes) (mask : Nat) :
    route m p a mask ≠ .type0 ∧ ∀ s, route m p a mask ≠ .panic s := by
  rcases route_cases m p a mask with ⟨t, h, _⟩ | h
  · simp [h]
  · generalize route m p a mask = r at h
    simp only [List.mem_cons, List.not_mem_nil, or_false] at h
    rcases h with rfl | rfl | rfl | rfl <;> simp

/-- A request reaches a responder only with one of the twelve request message types of a
protocol this handler serves; everything else is refused or (type 255) consumed. -/
theorem route_responder_only_request_types (m p a : Bytes) (mask t : Nat)
    (h : route m p a mask = .responder t) :
    isRequestType t = true ∧ hasResponder mask (protocolOf t) = true ∧ t ≤ 255 ∧ m = methodPost := by
  rcases route_cases m p a mask with ⟨t', h', r⟩ | h'
  · cases h.symm.trans h'; exact r
  · simp [h] at h'

/-- "Error is 255": whatever the method, path, Authorization header and role configuration, the
request is answered by HTTP 405 (not POST), HTTP 404 (extra path segments), consumed as the
peer's error message, handed to a responder, or answered with an FDO error message. -/
theorem route_error_is_255 (m p a : Bytes) (mask : Nat) :
    route m p a mask = .http405 ∨ route m p a mask = .http404 ∨ route m p a mask = .silent200 ∨
    route m p a mask = .err255 ∨ ∃ t, route m p a mask = .responder t := by
  rcases route_cases m p a mask with ⟨t, h, _⟩ | h
  · exact .inr (.inr (.inr (.inr ⟨t, h⟩)))
  · simp only [List.mem_cons, List.not_mem_nil, or_false] at h
    rcases h with h | h | h | h <;> simp [h]

/-- As found: a response-only message type sent as a request was answered 200 / Message-Type 0. -/
theorem routeV0_type0_witness : routeV0 methodPost (msgPath 61) [] 15 = .type0 ∧
    routeV0 methodPost (msgPath 11) [] 15 = .type0 := by decide +kernel

/-- The model's `protocolOf` is `protocol.Of` of the current code, for all 256 message types. -/
theorem gen_protocolOf_eq : ∀ t, t < 256 → Fdo.Gen.Proto.protocolOf[t]! = protocolOf t :=
  getElem!_of_eq_map_range (by decide +kernel)

-- the answer classes of `Fdo.Gen.Endpoint.dispatchClass`, which the extractor regenerates from the code
def routeClass : Route → Nat
  | .err255 => 0
  | .responder _ => 0      -- a body no responder accepts (ff) is answered with an error message
  | .silent200 => 1
  | .type0 => 2
  | .panic _ => 3
  | _ => 4

/-- For every message type 0..255 the current code answers `POST /fdo/101/msg/t` (body ff, no
token, all four responders) as the model routes it: an FDO error message, except 255. -/
theorem gen_dispatch_matches_model :
    ∀ t, t < 256 → Fdo.Gen.Endpoint.dispatchClass[t]! = routeClass (route methodPost (msgPath t) [] 15) :=
  getElem!_of_eq_map_range (by decide +kernel)

/-- … and no message type is answered Message-Type 0 or crashes the handler. -/
theorem gen_dispatch_error_is_255 : ∀ t, t < 255 → Fdo.Gen.Endpoint.dispatchClass[t]! = 0 :=
  -- the table is the function `t ↦ if t = 255 then 1 else 0` tabulated: one list equation for the kernel, not 255 look-ups
  fun t ht => (getElem!_of_eq_map_range (f := fun t => if t = 255 then 1 else 0) (by decide +kernel) t
    (Nat.lt_succ_of_lt ht)).trans (if_neg (Nat.ne_of_lt ht))

/-! ### error messages from the peer (handleError) -/

theorem handleError_never_panics (prev mask : Nat) : (handleError prev mask).safe = true := rfl

/-- As found: an owner-only handler (mask 8) panicked on an error message naming DI. -/
theorem handleError_v0_panics_witness :
    handleErrorV0 10 8 = .panic "http/handler.go:handleError:nil responder" := rfl

/-- The current code: no PrevMsgType panics a handler without responders. -/
theorem gen_handleError_no_panic : Fdo.Gen.Endpoint.handleErrorPanics = [] := by decide

/-! ### Authorization header -/

/-- The header is absent, refused, or `Bearer ` followed by exactly the token handed on. -/
theorem bearer_total (h : Bytes) :
    (bearer h = .absent ∧ h = []) ∨ bearer h = .invalid ∨ ∃ t, bearer h = .token t ∧ h = bearerPrefix ++ t := by
  unfold bearer
  split
  · rename_i he
    left
    exact ⟨rfl, by simpa using he⟩
  · split
    · rename_i hp
      right; right
      have := List.isPrefixOf_iff_prefix.mp hp
      obtain ⟨t, ht⟩ := this
      refine ⟨h.drop bearerPrefix.length, rfl, ?_⟩
      rw [← ht]
      simp
    · right; left; rfl

/-! ### content-length gate -/

/-- With a limit in force (`MaxContentLength ≥ 0`; 0 means 65535) a responder never gets to read
more than the limit, whatever length is announced and however long the body is.  (`h0`: net/http
hands over an empty body when the announced length is 0.) -/
theorem gate_bounded (cl max : Int) (actual : Nat) (hmax : 0 ≤ max) (h0 : cl = 0 → actual = 0) :
    (bytesRead (clGate cl max) actual : Int) ≤ effectiveMax max := by
  have hm : 0 < effectiveMax max := by unfold effectiveMax; split <;> omega
  unfold clGate
  simp only []
  split
  · simp [bytesRead]; omega
  · split
    · simp [bytesRead]; omega
    · split
      · simp only [bytesRead]
        omega
      · have : cl = 0 := by omega
        simp [bytesRead, h0 this]
        omega

/-- A request is refused before any byte is read iff its announced length exceeds the limit or is unknown. -/
theorem gate_refuse_iff (cl max : Int) (hmax : 0 ≤ max) :
    (clGate cl max = .tooLarge ↔ effectiveMax max < cl) ∧ (clGate cl max = .unspecified ↔ cl < 0) := by
  have hm : 0 < effectiveMax max := by unfold effectiveMax; split <;> omega
  unfold clGate
  simp only []
  constructor
  · constructor
    · intro h
      split at h
      · omega
      · split at h
        · cases h
        · split at h <;> cases h
    · intro h
      simp [hm, h]
  · constructor
    · intro h
      split at h
      · cases h
      · split at h
        · omega
        · split at h <;> cases h
    · intro h
      have h1 : ¬ (effectiveMax max < cl) := by omega
      simp [h1, hm, h]

/-- The current code's default limit and its refusal of unknown lengths are the model's. -/
theorem gen_content_length_limit :
    (Fdo.Gen.Endpoint.defaultMaxContentLength : Int) = effectiveMax 0 ∧
    Fdo.Gen.Endpoint.unknownLengthAdmitted = false ∧ clGate (-1) 0 = .unspecified ∧
    clGate 65536 0 = .tooLarge ∧ clGate 65535 0 = .read (some 65535) := by decide

/-! ### hash selection by key size -/

theorem hashAlgFor_never_panics (d o : KeyKind) : (hashAlgFor d o).safe = true := by
  fun_cases hashAlgFor d o <;> rfl

/-- A hash is selected only when the smaller key calls for SHA-256 or SHA-384. -/
theorem hashAlgFor_ok_iff (d o : KeyKind) (b : Nat) :
    hashAlgFor d o = .ok b ↔ ∃ x y, hashSizeFor d = some x ∧ hashSizeFor o = some y ∧ min x y = b ∧ (b = 256 ∨ b = 384) := by
  unfold hashAlgFor
  constructor
  · intro h
    split at h
    · rename_i x y hx hy
      split at h
      · injection h with h; exact ⟨x, y, hx, hy, by omega, by omega⟩
      · split at h
        · injection h with h; exact ⟨x, y, hx, hy, by omega, by omega⟩
        · cases h
    · cases h
  · rintro ⟨x, y, hx, hy, hmin, hb⟩
    simp only [hx, hy]
    cases hb with
    | inl h => subst h; simp [hmin]
    | inr h => subst h; simp [hmin]

/-- As found: an RSA-1024 key (in a CSR, a voucher header or TO2.SetupDevice) panicked. -/
theorem hashAlgFor_v0_panics_witness :
    hashAlgForV0 (.rsa 128) .p256 = .panic "voucher.go:hashAlgFor:only hash sizes of 256 and 384 are included in FDO" ∧
    hashAlgForV0 .p256 (.rsa 512) = .ok 256 ∧
    hashAlgForV0 .p384 (.rsa 512) = .ok 384 ∧
    hashAlgForV0 (.rsa 512) (.rsa 512) = .panic "voucher.go:hashAlgFor:only hash sizes of 256 and 384 are included in FDO" :=
  ⟨rfl, rfl, rfl, rfl⟩

/-- The hash algorithm registry of the current code is the four ids the guarded call sites enumerate. -/
theorem gen_hashAlgs : Fdo.Gen.Endpoint.hashAlgs = [(-43, 384), (-16, 256), (5, 256), (6, 384)] := by decide

/-! ### optional parts -/

theorem proofPayload_never_panics (p : Option Bytes) : (proofPayload p).safe = true := by
  cases p <;> rfl

theorem signDeviceCertificate_never_panics (p : Option Bytes) : (signDeviceCertificate p).safe = true := by
  cases p <;> rfl

/-- As found: a TO2.ProveDevice token with a null payload and a DI.AppStart with null info panicked. -/
theorem optional_parts_v0_panics_witness :
    proofPayloadV0 none = .panic "to2.go:setupDevice:nil pointer dereference" ∧
    signDeviceCertificateV0 none = .panic "custom/di.go:SignDeviceCertificate:nil pointer dereference" :=
  ⟨rfl, rfl⟩

/-! ### X5CHAIN public keys -/

theorem x5chainKey_never_panics (certs : List (Option Nat)) : (x5chainKey certs).safe = true := by
  fun_cases x5chainKey certs <;> rfl

/-- A key comes out only of a non-empty chain without null certificates, and it is the first one's. -/
theorem x5chainKey_ok_iff (certs : List (Option Nat)) (k : Nat) :
    x5chainKey certs = .ok k ↔ certs.head? = some (some k) ∧ certs.any Option.isNone = false := by
  unfold x5chainKey
  constructor
  · intro h
    split at h
    · cases h
    · rename_i hn
      split at h
      · rename_i k' r
        injection h with h
        subst h
        refine ⟨rfl, ?_⟩
        cases hb : (some k' :: r).any Option.isNone with
        | false => rfl
        | true => exact absurd hb hn
      · cases h
  · rintro ⟨hh, hn⟩
    simp only [hn]
    cases certs with
    | nil => simp at hh
    | cons c r =>
      simp at hh
      subst hh
      simp

/-- As found: `[null]` as the certificate array of an X5CHAIN key panicked the DI and TO2 clients and the rendezvous server. -/
theorem x5chainKey_v0_panics_witness :
    x5chainKeyV0 [none] = .panic "protocol/key.go:parseX5Chain:nil pointer dereference" := rfl

/-! ### service info chunk writer -/

theorem writeChunk_never_panics_nor_hangs (w : ChunkWriter) (kv : Option String) : (writeChunk w kv).safe = true := by
  fun_cases writeChunk w kv <;> rfl

theorem writeChunks_never_panics_nor_hangs (w : ChunkWriter) (kvs : List (Option String)) :
    (writeChunks w kvs).safe = true := by
  fun_induction writeChunks w kvs
  case case2 ih => exact ih
  -- as in `devmodRun_never_panics`
  case case4 h | case5 h => exact h ▸ writeChunk_never_panics_nor_hangs ..
  all_goals rfl

/-- One chunk opens at most one pipe, never beyond the queue's capacity, and leaves the capacity alone. -/
theorem writeChunk_queue_step (w w' : ChunkWriter) (kv : Option String) (h : writeChunk w kv = .ok w') :
    w'.cap = w.cap ∧ w.queued ≤ w'.queued ∧ w'.queued ≤ w.queued + 1 ∧
    (0 < w.cap → w.queued ≤ w.cap → w'.queued ≤ w.cap) := by
  unfold writeChunk at h
  split at h
  · cases h
  · split at h
    · injection h with h; subst h; exact ⟨rfl, Nat.le_refl _, by omega, fun _ h => h⟩
    · split at h
      · cases h
      · injection h with h
        subst h
        refine ⟨rfl, by simp, by simp, ?_⟩
        intro hc hq
        simp
        omega

/-- Pipes (each a buffer of its own) are linear in the number of KVs of the message and, for a
buffered queue, bounded by its capacity: the allocation a hostile service-info list can cause. -/
theorem writeChunks_queue_bounded (w w' : ChunkWriter) (kvs : List (Option String))
    (h : writeChunks w kvs = .ok w') :
    w'.queued ≤ w.queued + kvs.length ∧ (0 < w.cap → w.queued ≤ w.cap → w'.queued ≤ w.cap) := by
  revert h
  fun_induction writeChunks w kvs
  case case1 => intro h; cases h; exact ⟨by simp, fun _ h => h⟩
  case case2 w kv r w1 hd ih =>
    intro h
    obtain ⟨hc, hge, hle, hcap⟩ := writeChunk_queue_step w w1 kv hd
    obtain ⟨h1, h2⟩ := ih h
    refine ⟨by simp only [List.length_cons]; omega, ?_⟩
    intro hpos hq
    have h3 := hcap hpos hq
    have h4 := h2 (by omega) (by omega)
    omega
  all_goals nofun

/-- As found: a null KV and an empty first key panicked owner and device; with the device's queue
of 1000 full and nobody reading, the next pipe blocked for ever. -/
theorem writeChunk_v0_witness :
    writeChunkV0 (ChunkWriter.fresh 1000) none = .panic "serviceinfo/chunk.go:WriteChunk:nil pointer dereference" ∧
    writeChunkV0 (ChunkWriter.fresh 1000) (some "") = .panic "serviceinfo/chunk.go:WriteChunk:nil pointer dereference" ∧
    writeChunkV0 ⟨true, "a:b", 1000, 1000⟩ (some "c:d") = .hang "serviceinfo/chunk.go:WriteChunk:send on full channel" :=
  ⟨rfl, rfl, rfl⟩

/-! ### summary -/

/-- Every modelled site of the repaired code is total: for all peer-supplied inputs it yields a
value or an error, never a panic and never a blocked goroutine. -/
theorem endpoint_sites_never_panic :
    (∀ len n, (ovNextEntry len n).safe = true) ∧
    (∀ mods ms, (devmodRun mods ms).safe = true) ∧
    (∀ m p a mask, route m p a mask ≠ .type0 ∧ ∀ s, route m p a mask ≠ .panic s) ∧
    (∀ prev mask, (handleError prev mask).safe = true) ∧
    (∀ d o, (hashAlgFor d o).safe = true) ∧
    (∀ p, (proofPayload p).safe = true) ∧
    (∀ p, (signDeviceCertificate p).safe = true) ∧
    (∀ certs, (x5chainKey certs).safe = true) ∧
    (∀ w kvs, (writeChunks w kvs).safe = true) :=
  ⟨ovNextEntry_never_panics, devmodRun_never_panics, route_never_type0_nor_panics, handleError_never_panics,
    hashAlgFor_never_panics, proofPayload_never_panics, signDeviceCertificate_never_panics,
    x5chainKey_never_panics, writeChunks_never_panics_nor_hangs⟩

/-! ### non-vacuity -/

example : ovNextEntry 3 2 = .ok 2 := by decide
example : devmodRun [] [.num 3, .chunk 0 2 ["a", "b"], .chunk 0 1 ["c"]] = .ok ["a", "b", "c"] := by decide
example : devmodRun [] [.num 2, .chunk 1 2 ["a", "b"]] = .ok ["a", "b"] := by decide
example : devmodRun [] [.num 1, .chunk 0 2 ["a", "b"]] = .err := by decide
example : route methodPost (msgPath 60) [] 15 = .responder 60 := by decide
example : route methodPost (msgPath 61) [] 15 = .err255 := by decide
example : route methodPost (msgPath 60) [] 7 = .err255 := by decide
example : route methodPost (msgPath 255) (bearerPrefix ++ [97]) 0 = .silent200 := by decide
example : route methodPost (msgPath 62) [97] 15 = .err255 := by decide
example : route [71, 69, 84] (msgPath 60) [] 15 = .http405 := by decide
example : route methodPost (msgPath 60 ++ [47, 49]) [] 15 = .http404 := by decide
example : bearer (bearerPrefix ++ [97, 98]) = .token [97, 98] := by decide
example : bytesRead (clGate 100 0) 70000 = 100 ∧ clGate 70000 0 = .tooLarge := by decide
example : hashAlgFor .p256 (.rsa 384) = .ok 256 ∧ hashAlgFor (.rsa 384) .p384 = .ok 384 := by decide
example : x5chainKey [some 7, some 8] = .ok 7 ∧ x5chainKey [some 7, none] = .err := by decide
example : writeChunks (ChunkWriter.fresh 2) [some "a", some "a", some "b"] = .ok ⟨true, "b", 2, 2⟩ := by decide
example : writeChunks (ChunkWriter.fresh 2) [some "a", some "b", some "c"] = .err := by decide

end Fdo.Props.C10
