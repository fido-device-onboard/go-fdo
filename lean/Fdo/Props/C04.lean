import Fdo.Proto.VoucherSpec
import Fdo.Facts
/-
C04 — Ownership vouchers verify iff untampered; only the current owner can extend.
`H` (hash), `sigOK` (COSE signature of an entry verifies under a key) and `keyOK` (a key
structure parses) are universally quantified: the theorems hold for every hash and signature
scheme; that a forger cannot make `sigOK` true or find collisions of `H` is the cryptographic
assumption. The specification the statements are written in (`keyAt`, `prevAt`, `ChainOK`) stands in
Fdo/Proto/VoucherSpec.lean, under this namespace.
-/
namespace Fdo.Props.C04
open Fdo Fdo.Cbor Fdo.Cose Fdo.Proto

/-- The recursive walk of the code is the link-by-link specification. -/
theorem walk_iff (H : Bytes → Bytes) (sigOK : Bytes → EntryView → Bool) (keyOK : Bytes → Bool)
    (alg : Int) (infoHash : Bytes) (k p : Bytes) (es : List EntryView) :
    walk H sigOK keyOK alg infoHash k p es = true ↔ ChainOK H sigOK keyOK alg infoHash k p es := by
  induction es generalizing k p with
  | nil => simp [walk, ChainOK]
  | cons e rest ih =>
    rw [ChainOK_cons, ← ih]
    cases rest <;> simp [walk, and_assoc]

/-- `VerifyEntries` accepts exactly the vouchers whose manufacturer key parses and whose entries
form a chain in the sense of `ChainOK`, starting under the manufacturer key with the hash of
header ‖ HMAC, all under the hash algorithm of the first entry (soundness and completeness of
the recursive walk: no entry skipped, no off-by-one in keys or hashes). -/
theorem verifyEntries_iff (sha256 sha384 : Bytes → Bytes) (sigOK : Bytes → EntryView → Bool)
    (keyOK : Bytes → Bool) (v : VoucherView) :
    verifyEntries sha256 sha384 sigOK keyOK v = true ↔
      keyOK v.mfgKey = true ∧
      (v.entries = [] ∨ ∃ e0 rest H, v.entries = e0 :: rest ∧ hashOf sha256 sha384 e0.prevAlg = some H ∧
        ChainOK H sigOK keyOK e0.prevAlg (H (v.guid ++ v.devInfo)) v.mfgKey (v.hdrBytes ++ v.hmacBytes) v.entries) := by
  unfold verifyEntries
  cases he : v.entries with
  | nil => simp
  | cons e0 rest =>
    simp only [Bool.and_eq_true]
    cases hh : hashOf sha256 sha384 e0.prevAlg with
    | none => simp [hh]
    | some H =>
      rw [walk_iff]
      constructor
      · rintro ⟨a, b⟩; exact ⟨a, Or.inr ⟨e0, rest, H, rfl, hh, b⟩⟩
      · rintro ⟨a, b⟩
        refine ⟨a, ?_⟩
        rcases b with b | ⟨e0', rest', H', heq, hh', hc⟩
        · simp at b
        · simp at heq
          obtain ⟨h1, h2⟩ := heq
          subst h1 h2
          rw [hh] at hh'; simp at hh'; subst hh'; exact hc

/-- The owner a voucher reports is the key under which the *next* entry would have to be signed:
the key of the last entry, or the manufacturer key for a voucher that was never extended. -/
theorem ownerKey_is_last (v : VoucherView) :
    ownerKey v = keyAt v.mfgKey v.entries v.entries.length := by
  unfold ownerKey
  cases h : v.entries.getLast? with
  | none =>
    have : v.entries = [] := by simpa using h
    simp [this, keyAt]
  | some e =>
    obtain ⟨ys, hys⟩ := List.getLast?_eq_some_iff.mp h
    simp [hys, keyAt]

/-- Extending a valid chain with an entry signed by the current owner over the right hashes
gives a valid chain (so a voucher created by DI and extended any number of times verifies:
induction over the extensions). -/
theorem extend_preserves (H : Bytes → Bytes) (sigOK : Bytes → EntryView → Bool) (keyOK : Bytes → Bool)
    (alg : Int) (infoHash k p : Bytes) (es : List EntryView) (e' : EntryView)
    (hok : ChainOK H sigOK keyOK alg infoHash k p es)
    (hsig : sigOK (keyAt k es es.length) e' = true) (halg : e'.hdrAlg = alg) (hh : e'.hdrHash = infoHash)
    (hp : e'.prevHash = H (prevAt p es es.length))
    (hkey : ∀ e, es.getLast? = some e → keyOK e.pubKey = true) :
    ChainOK H sigOK keyOK alg infoHash k p (es ++ [e']) := by
  induction es generalizing k p with
  | nil => exact (ChainOK_cons ..).mpr ⟨⟨hsig, halg, hh, hp, fun h => absurd rfl h⟩, nofun⟩
  | cons e rest ih =>
    obtain ⟨⟨a, b, c, d, f⟩, hr⟩ := (ChainOK_cons ..).mp hok
    rw [List.length_cons, keyAt_cons_succ] at hsig
    rw [List.length_cons, prevAt_cons_succ] at hp
    rw [List.cons_append, ChainOK_cons]
    -- with `e'` appended `e` is no longer last, so `keyOK e.pubKey` is owed: by `hkey` if `e` was last, by `f` if not
    cases rest with
    | nil => exact ⟨⟨a, b, c, d, fun _ => hkey e rfl⟩, ih _ _ hr hsig hp nofun⟩
    | cons r rs => exact ⟨⟨a, b, c, d, fun _ => f nofun⟩, ih _ _ hr hsig hp hkey⟩

/-- Tamper evidence, header: two vouchers that both verify and share their first entry have
header ‖ HMAC with the same hash — changing any header field or the header MAC while keeping
the entries requires a collision of `H`. -/
theorem header_bound_by_first_entry (H : Bytes → Bytes) (sigOK : Bytes → EntryView → Bool) (keyOK : Bytes → Bool)
    (alg alg' : Int) (ih ih' k k' p p' : Bytes) (e : EntryView) (rest rest' : List EntryView)
    (h1 : ChainOK H sigOK keyOK alg ih k p (e :: rest)) (h2 : ChainOK H sigOK keyOK alg' ih' k' p' (e :: rest')) :
    H p = H p' :=
  ((ChainOK_cons ..).mp h1).1.2.2.2.1.symm.trans ((ChainOK_cons ..).mp h2).1.2.2.2.1

/-- Tamper evidence, entries: in two verifying chains that agree on entry `i+1`, the tagged
encodings of entry `i` have the same hash — changing an entry's payload, protected header or
signature (all part of the tagged encoding), reordering or splicing entries requires a collision
of `H` or re-signing the following entry. -/
theorem entry_bound_by_next (H : Bytes → Bytes) (sigOK : Bytes → EntryView → Bool) (keyOK : Bytes → Bool)
    (alg alg' : Int) (ih ih' k k' p p' : Bytes) (es es' : List EntryView) (i : Nat) (a b n : EntryView)
    (h1 : ChainOK H sigOK keyOK alg ih k p es) (h2 : ChainOK H sigOK keyOK alg' ih' k' p' es')
    (ha : es[i]? = some a) (hb : es'[i]? = some b) (hn : es[i+1]? = some n) (hn' : es'[i+1]? = some n) :
    H a.tagBytes = H b.tagBytes := by
  have x := (h1 (i+1) n hn).2.2.2.1
  have y := (h2 (i+1) n hn').2.2.2.1
  simp [prevAt, ha] at x
  simp [prevAt, hb] at y
  rw [← x, ← y]

/-- The signer of entry `i+1` is bound to entry `i`: a verifying chain's entry `i+1` verifies
under exactly the key carried by entry `i` (only the current owner can extend). -/
theorem next_entry_signed_by_previous_key (H : Bytes → Bytes) (sigOK : Bytes → EntryView → Bool) (keyOK : Bytes → Bool)
    (alg : Int) (ih k p : Bytes) (es : List EntryView) (i : Nat) (a n : EntryView)
    (h : ChainOK H sigOK keyOK alg ih k p es) (ha : es[i]? = some a) (hn : es[i+1]? = some n) :
    sigOK a.pubKey n = true := by
  have x := (h (i+1) n hn).1
  simpa [keyAt, ha] using x

/-- Non-vacuity: a two-entry chain under a toy hash and signature oracle is accepted by `walk`, so it satisfies
`ChainOK` (`walk_iff`). -/
example :
    let H : Bytes → Bytes := fun b => [UInt8.ofNat b.length]
    let e0 : EntryView := ⟨[], true, [1], -16, [2], -16, [9], [7], [], [5, 5]⟩
    let e1 : EntryView := ⟨[], true, [2], -16, [2], -16, [9], [8], [], [6]⟩
    walk H (fun _ _ => true) (fun _ => true) (-16) [9] [3] [0, 0] [e0, e1] = true := by
  decide +kernel

/-- **What the source does, in which order** (regenerated call-order facts of `ExtendVoucher`): the current
owner key is looked up and compared, and the next owner's key kind checked, before the new entry is signed;
the argument is cloned first. -/
theorem code_facts :
    Fdo.Facts.allBefore "ExtendVoucher" ["shallowClone", "OwnerPublicKey", "Equal", "sameKeyTypeAndSize"] "newSignedEntry" = true := by
  decide +kernel

end Fdo.Props.C04
