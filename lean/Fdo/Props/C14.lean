import Fdo.Kex.Proofs
import Fdo.Kex.Rfc3526
/-
C14 — key exchange yields equal, fresh, correctly derived keys; survives persistence.
Property theorems only; helper lemmas live in Fdo/Kex/Proofs.lean.

Conventions: `prf` is the PRF (HMAC-SHA256/384 in the code) — universally quantified, the only
thing assumed about it is its output length.  ECDH point arithmetic and RSA-OAEP are oracle
parameters (`EcdhOracle`, `enc`/`dec`) with exactly the functional-correctness hypotheses the
statement needs.  The model is the REPAIRED library (the `fix: kex:` commits: randomness read with
`io.ReadFull`, `SetParameter` without a private parameter is an error, an ECDH session is restored on its
curve, trailing bytes in the ECDH parameter are refused); theorems ending in `_unfixed` exhibit what the
unrepaired code did.
-/
namespace Fdo.Props.C14
open Fdo Fdo.Cbor Fdo.Kex

/-! ## KDF: the code equals NIST SP 800-108 counter mode with FDO's parameters -/

/-- For both PRF sizes the library supports (hBytes = 32 or 48, i.e. h = 256 or 384 bits), every
key, every context and every requested length `L ≤ 255·hBytes` bits (every registered suite stays
inside: `callers_within_kdf_range`), the loop in kdf.go returns exactly what the standard
defines — although it runs `⌈L/hBytes⌉` rounds where the standard says `⌈L/(8·hBytes)⌉`
(`h` in the code is bytes, `L` bits): the surplus blocks are cut off again. -/
theorem kdfCode_eq_spec (prf : Bytes → Bytes → Bytes) (hBytes : Nat) (hh : hBytes = 32 ∨ hBytes = 48)
    (hprf : ∀ k m, (prf k m).length = hBytes) (L : Nat) (hL : L ≤ 255 * hBytes) (key ctx : Bytes) :
    ∃ out, kdfSpec prf (8 * hBytes) L key ctx = some out ∧ kdfCode prf hBytes L key ctx = .ok out := by
  obtain ⟨h1, h2, h3⟩ := kdfCodeRounds_bounds hBytes L hh hL
  have hlen := kdfBlocks_length prf hBytes hprf key ctx L
  refine ⟨_, if_neg (by omega), ?_⟩
  -- enough blocks are there, and the surplus rounds do not change the leftmost `L/8` bytes
  rw [kdfCode_eq, if_neg (by omega), if_neg (by omega),
    if_pos (by rw [hlen]; exact Nat.le_trans h3 (Nat.mul_le_mul_right _ h1)),
    kdfBlocks_take prf hBytes hprf key ctx L h1 h3]

/-- The one place where code and standard differ: the code's round count is 8× the standard's, so
its `n > 255` guard fires for every L > 255·hBytes although the standard still defines a result
up to 255·8·hBytes bits.  Witness L = 8168 with HMAC-SHA256: the standard needs 32 rounds, the code
panics with "n too large".  No caller can request this (next theorem). -/
theorem kdfCode_panics_inside_spec_range_unreachable (prf : Bytes → Bytes → Bytes) (key ctx : Bytes) :
    kdfCode prf 32 8168 key ctx = .panic "kdf:n too large" ∧ (kdfSpec prf 256 8168 key ctx).isSome = true := by
  constructor
  · rw [kdfCode_eq, if_neg (by decide), if_pos (by decide)]
  · simp [kdfSpec, kdfSpecRounds]

/-- Regenerated registry: every registered cipher suite uses a PRF the KDF supports and asks for a
length inside the range where `kdfCode_eq_spec` applies, a multiple of 8, without uint16 wrap. -/
theorem callers_within_kdf_range :
    ∀ c ∈ Fdo.Gen.Kex.cipherSuites, (c.prfBytes = 32 ∨ c.prfBytes = 48) ∧ kdfBits c ≤ 255 * c.prfBytes ∧
      kdfBits c = (c.encKeyBytes + c.macKeyBytes) * 8 ∧ 0 < c.encKeyBytes := by decide +kernel

/-- The derived key material has exactly the requested length. (`hh`, `hprf`, `hL` are not needed: `kdfCode` returning
a value is enough.) -/
theorem kdf_length (prf : Bytes → Bytes → Bytes) (hBytes : Nat) (hh : hBytes = 32 ∨ hBytes = 48)
    (hprf : ∀ k m, (prf k m).length = hBytes) (L : Nat) (hL : L ≤ 255 * hBytes) (key ctx out : Bytes)
    (h : kdfCode prf hBytes L key ctx = .ok out) : out.length = L / 8 :=
  kdfCode_length h

/-- The driver's two-step protocol (`kex.kdf.inputs`, PRF values computed outside, then
`kex.kdf.assemble`) computes `kdfSpec`: the messages are the standard's, in order. -/
theorem kdfSpec_eq_assemble_inputs (prf : Bytes → Bytes → Bytes) (h L : Nat) (key ctx : Bytes)
    (hn : kdfSpecRounds h L ≤ 255) :
    kdfSpec prf h L key ctx = some (kdfAssemble L ((kdfInputs h L ctx).map (prf key))) := by
  unfold kdfSpec kdfAssemble kdfInputs
  have : ¬ kdfSpecRounds h L > 255 := by omega
  simp only [this, if_false]
  rw [kdfBlocks_eq_foldr]
  simp

/-- SEK and SVK have exactly the sizes the cipher suite's COSE algorithms require, for every
registered suite (regenerated table) and every PRF of the right output size. -/
theorem key_lengths_match_cipher (prf : Bytes → Bytes → Bytes) (c : CipherRow) (hc : c ∈ Fdo.Gen.Kex.cipherSuites)
    (hprf : ∀ k m, (prf k m).length = c.prfBytes) (shSe ctx : Bytes) :
    ∃ sek svk, deriveKeys prf c shSe ctx = .ok (sek, svk) ∧
      sek.length = c.encKeyBytes ∧ svk.length = c.macKeyBytes := by
  obtain ⟨hh, hL, hbits, _⟩ := callers_within_kdf_range c hc
  obtain ⟨out, _, hcode⟩ := kdfCode_eq_spec prf c.prfBytes hh hprf (kdfBits c) hL shSe ctx
  have hlen := kdfCode_length hcode
  rw [hbits, Nat.mul_div_cancel _ (by decide)] at hlen
  refine ⟨out.take c.encKeyBytes, out.drop c.encKeyBytes, ?_,
    by rw [List.length_take, hlen]; exact Nat.min_eq_left (Nat.le_add_right _ _),
    by rw [List.length_drop, hlen, Nat.add_sub_cancel_left]⟩
  unfold deriveKeys
  rw [hcode]
  simp only [Outcome.bind, splitKeys]
  rw [if_pos (hlen ▸ Nat.le_add_right _ _)]

/-- The registry is what FDO 1.1 lists minus the CCM suites: the seven ids, AEAD suites have no
MAC key, encrypt-then-MAC suites have one. -/
theorem cipher_registry_shape :
    Fdo.Gen.Kex.cipherSuites.map (·.id) = [-17760706, -17760705, -17760704, -17760703, 1, 2, 3] ∧
    ∀ c ∈ Fdo.Gen.Kex.cipherSuites, (c.aead = true ↔ c.macAlg = 0) ∧ (c.macAlg = 0 ↔ c.macKeyBytes = 0) :=
  ⟨rfl, by decide +kernel⟩

/-- `kex.Suite.Valid` as executed over (suite × device signature algorithm × owner key kind): for
ECDSA devices exactly the twelve combinations of FDO 1.1 §3.6.5 are allowed (RSA devices are
unconstrained in the code). -/
theorem suite_valid_table :
    (Fdo.Gen.Kex.suiteValid.filter (fun r => r.2.2.2 && (r.2.1 == "ES256" || r.2.1 == "ES384"))).map
        (fun r => (r.1, r.2.1, r.2.2.1)) =
      [("ECDH256", "ES256", "P256"), ("ECDH256", "ES384", "P256"),
       ("ECDH384", "ES256", "P384"), ("ECDH384", "ES384", "P384"),
       ("DHKEXid14", "ES256", "RSA2048"), ("DHKEXid14", "ES384", "RSA2048"),
       ("DHKEXid15", "ES256", "RSA3072"), ("DHKEXid15", "ES384", "RSA3072"),
       ("ASYMKEX2048", "ES256", "RSA2048"), ("ASYMKEX2048", "ES384", "RSA2048"),
       ("ASYMKEX3072", "ES256", "RSA3072"), ("ASYMKEX3072", "ES384", "RSA3072")] := by decide +kernel

/-! ## Diffie-Hellman -/

/-- Both parties compute the same shared value, for ALL p, g, a, b (square-and-multiply included). -/
theorem dh_agree (p g a b : Nat) :
    dhSharedNat p (dhPublic ⟨p, g, 0⟩ a) b = dhSharedNat p (dhPublic ⟨p, g, 0⟩ b) a := by
  simp only [dhSharedNat, dhPublic, powMod_eq]
  exact pow_comm_mod g a b p

/-- The exponentiation the model runs is modular exponentiation. -/
theorem powMod_correct (b e m : Nat) : powMod b e m = b ^ e % m := powMod_eq b e m

/-- Degenerate and out-of-range peer values are rejected before any key is derived:
0, 1, p−1, p, p+1 and everything above. -/
theorem dh_rejects_degenerate (p y own : Nat) (h : y = 0 ∨ y = 1 ∨ y = p - 1 ∨ y ≥ p) :
    dhShared p y own = .reject := by
  rw [dhShared_eq, if_neg]
  intro hc
  have := (dhPeerValid_iff p y).1 hc.1
  omega

/-- Whenever a DH shared secret is produced, the peer value was in [2, p−2], the secret is the
fixed-width (len(p) bytes, leading zeros kept) encoding of peer^own mod p, and that value is none
of 0, 1, p−1.  `dhShared` never panics. -/
theorem dh_shared_sound (p peer own : Nat) (sh : Bytes) (h : dhShared p peer own = .ok sh) :
    (2 ≤ peer ∧ peer + 2 ≤ p) ∧ sh = natBE (byteLen p) (peer ^ own % p) ∧ sh.length = byteLen p ∧
      2 ≤ peer ^ own % p ∧ peer ^ own % p + 1 ≠ p := by
  have ⟨h1, h2, h3, h4⟩ := dhShared_ok h
  exact ⟨h1, h2, by rw [h2]; simp, h3, h4⟩

theorem dh_shared_never_panics (p peer own : Nat) (site : String) : dhShared p peer own ≠ .panic site := by
  rw [dhShared_eq]; split <;> simp

set_option exponentiation.threshold 5000 in
/-- The regenerated DH groups are RFC 3526 groups 14 and 15 BY THE RFC'S FORMULA
(2^n − 2^(n−64) − 1 + 2^64·(⌊2^(n−130) π⌋ + c), π from Machin's series), generator 2, and the
secret sizes are 32 and 96 bytes. -/
theorem dh_groups_are_rfc3526 :
    Fdo.Gen.Kex.dhGroups = [⟨"DHKEXid14", Rfc3526.prime14, 2, 32⟩, ⟨"DHKEXid15", Rfc3526.prime15, 2, 96⟩] := by
  decide +kernel

/-! ## byte encodings -/

/-- Fixed-width big-endian keeps leading zeros and is inverse to `beNat` both ways;
`big.Int.Bytes()` (minimal width) reads back to the same number, never starts with a zero byte, and
`SetBytes` ignores leading zeros — so a public value or secret with leading zero bytes is the same
number on both sides whichever width it travelled in. -/
theorem be_roundtrip :
    (∀ w n, n < 256 ^ w → beNat (natBE w n) = n) ∧
    (∀ bs : Bytes, natBE bs.length (beNat bs) = bs) ∧
    (∀ n, beNat (minBytes n) = n) ∧
    (∀ n b r, minBytes n = b :: r → b ≠ 0) ∧
    (∀ k (bs : Bytes), beNat (zeros k ++ bs) = beNat bs) :=
  ⟨beNat_natBE, natBE_beNat, beNat_minBytes, minBytes_no_leading_zero, beNat_replicate_zero_append⟩

/-! ## ECDH parameter format -/

/-- decode ∘ encode = id for every triple of byte strings that fits the 16-bit length fields;
bytes after the third field are ignored (as the library does). -/
theorem ecdhParam_roundtrip (x y r t : Bytes) (hx : x.length < 65536) (hy : y.length < 65536)
    (hr : r.length < 65536) : ecdhParamFields (ecdhParamEncFields x y r ++ t) = some (x, y, r, t) :=
  ecdhParamFields_enc x y r t hx hy hr

/-- `UnmarshalBinary ∘ MarshalBinary = id` on what `Parameter` marshals: a SEC 1 uncompressed
point (04 ‖ x ‖ y, equal widths, leading zeros kept) and a random string. -/
theorem ecdhParam_marshal_roundtrip (pub rand : Bytes) (n : Nat) (hp : IsPoint pub n) (hn : n < 65536)
    (hr : rand.length < 65536) :
    ∃ w, ecdhParamMarshal pub rand = .ok w ∧ ecdhParamDecode w = some (pub, rand) :=
  ecdhParamDecode_marshal pub rand n hp hn hr

/-- Every reject branch of the parser: a field is refused exactly when fewer than two length
bytes or fewer than the announced number of content bytes remain. -/
theorem ecdhParam_field_reject (b : Bytes) :
    takeField b = none ↔ (b.length < 2 ∨ (b.drop 2).length < beNat (b.take 2)) := by
  unfold takeField
  by_cases h : b.length < 2
  · simp [h]
  · by_cases h2 : (b.drop 2).length < beNat (b.take 2)
    · simp only [h, h2, if_false, if_true, or_true]
    · simp only [h, h2, if_false]; simp

/-- Trailing bytes after the third field are refused (repaired code), whatever the fields are. -/
theorem ecdhParam_rejects_trailing (x y r : Bytes) (t0 : UInt8) (t : Bytes) (hx : x.length < 65536)
    (hy : y.length < 65536) (hr : r.length < 65536) :
    ecdhParamDecode (ecdhParamEncFields x y r ++ t0 :: t) = none := by
  unfold ecdhParamDecode
  rw [ecdhParamFields_enc x y r (t0 :: t) hx hy hr]

/-- …which the unrepaired parser accepted (replayed on Go: classes `ecdh:trailing-1` and `ecdh:trailing-100`). -/
theorem ecdhParam_accepted_trailing_unfixed :
    ecdhParamDecodeUnfixed (ecdhParamEncFields [1] [2] [3] ++ [0xff, 0xff]) = some ([4, 1, 2], [3]) := by
  decide +kernel

/-- Leniencies that remain (observations; the library does not reject them and neither does the
model): the random field may have any length including zero, and coordinates of unequal length are
re-padded to the longer one, so a coordinate sent without its leading zero bytes denotes the same
point. -/
theorem ecdhParam_lenient :
    ecdhParamDecode (ecdhParamEncFields [0, 1] [2, 3] []) = some ([4, 0, 1, 2, 3], []) ∧
    ecdhParamDecode (ecdhParamEncFields [1] [2, 3] [9]) = some ([4, 0, 1, 2, 3], [9]) := by
  decide +kernel

/-- Both parties assemble the same shSe = x ‖ randB ‖ randA (device random first), given the ECDH
primitive is symmetric on this key pair. -/
theorem ecdh_both_sides_same_shse (O : EcdhOracle) (a b ra rb : Bytes) (n : Nat) (hn : n < 65536)
    (hpa : IsPoint (O.pubOf a) n) (hpb : IsPoint (O.pubOf b) n)
    (hra : ra.length < 65536) (hrb : rb.length < 65536)
    (hva : O.validPub (O.pubOf a) = true) (hvb : O.validPub (O.pubOf b) = true)
    (hsym : O.ecdh a (O.pubOf b) = O.ecdh b (O.pubOf a))
    (xA xB : Bytes) (hA : ecdhParamMarshal (O.pubOf a) ra = .ok xA) (hB : ecdhParamMarshal (O.pubOf b) rb = .ok xB) :
    ecdhShared O (some a) xA xB = .ok (O.ecdh a (O.pubOf b) ++ (rb ++ ra)) ∧
    ecdhShared O (some b) xA xB = .ok (O.ecdh a (O.pubOf b) ++ (rb ++ ra)) := by
  obtain ⟨wA, hwA, hdA⟩ := ecdhParamDecode_marshal (O.pubOf a) ra n hpa hn hra
  obtain ⟨wB, hwB, hdB⟩ := ecdhParamDecode_marshal (O.pubOf b) rb n hpb hn hrb
  cases hA.symm.trans hwA; cases hB.symm.trans hwB
  unfold ecdhShared
  simp only [hdA, hdB]
  constructor
  · rw [ecdhSharedSecret_own_first O a _ _ rfl, if_pos hvb]; rfl
  · -- the device finds its own public key in second place, unless both keys are the same
    by_cases he : O.pubOf a = O.pubOf b
    · rw [ecdhSharedSecret_own_first O b _ _ he, if_pos hvb]
      -- with equal public keys the device takes the first: `ecdh b (pubOf b)`, which `hsym` equates to `ecdh a (pubOf b)`
      rw [he] at hsym
      rw [hsym]; rfl
    · rw [ecdhSharedSecret_own_second O b _ _ he rfl, if_pos hva, ← hsym]; rfl

/-- A peer point the curve refuses (off-curve, wrong length, infinity) never yields a secret. -/
theorem ecdh_rejects_invalid_point (O : EcdhOracle) (k : Bytes) (pA pB : Bytes × Bytes)
    (hown : pA.1 = O.pubOf k) (hbad : O.validPub pB.1 = false) :
    ecdhSharedSecret O (some k) pA pB = .reject := by
  rw [ecdhSharedSecret_own_first O k pA pB hown, hbad]; rfl

/-! ## both sides derive the same SEK/SVK (whole sessions) -/

/-- DH: whatever the randomness of the two parties, if both complete, the owner's and the device's
(cipher, SEK, SVK) are equal, and the exchanged parameters are g^a and g^b mod p. -/
theorem dh_both_sides_same_keys (prf : Bytes → Bytes → Bytes) (G : DhGroup) (cipher : Int) (ra rb : Bytes)
    (own0 own1 own2 dev0 dev1 : DhSession) (xA xB : Bytes)
    (h0 : dhNew G none cipher = .ok own0) (h1 : dhParameter prf own0 ra = .ok (own1, xA))
    (hd0 : dhNew G (some xA) cipher = .ok dev0) (hd1 : dhParameter prf dev0 rb = .ok (dev1, xB))
    (h2 : dhSetParameter prf own1 xB = .ok own2) :
    own2.cr = dev1.cr ∧ xA = minBytes (G.g ^ beNat ra % G.p) ∧ xB = minBytes (G.g ^ beNat rb % G.p) := by
  obtain ⟨_, rfl⟩ := newSession_ok h0
  obtain ⟨_, rfl⟩ := newSession_ok hd0
  obtain ⟨rfl, rfl⟩ := dhParameter_first rfl h1
  obtain ⟨c, kd, hc, hkd, rfl, rfl⟩ := dhParameter_second rfl hd1
  obtain ⟨a, c', ko, ha, hc', hko, rfl⟩ := dhSetParameter_ok h2
  cases ha; cases hc.symm.trans hc'
  refine ⟨?_, rfl, rfl⟩
  -- both sides feed the KDF the same shared value: (g^a)^b = (g^b)^a
  obtain ⟨shd, hshd, hkd⟩ := Outcome.bind_eq_ok hkd
  obtain ⟨sho, hsho, hko⟩ := Outcome.bind_eq_ok hko
  have e1 := (dhShared_ok hshd).2.1
  have e2 := (dhShared_ok hsho).2.1
  simp only [beNat_minBytes] at e1 e2
  rw [pow_comm_mod, ← e2] at e1
  subst e1
  cases hkd.symm.trans hko
  rfl

/-- ECDH, given the primitive's symmetry and that both public keys are valid points. -/
theorem ecdh_both_sides_same_keys (prf : Bytes → Bytes → Bytes) (O : EcdhOracle) (rs : Nat) (cipher : Int)
    (a b ra rb : Bytes) (n : Nat) (hn : n < 65536)
    (hpa : IsPoint (O.pubOf a) n) (hpb : IsPoint (O.pubOf b) n)
    (hra : ra.length < 65536) (hrb : rb.length < 65536)
    (hva : O.validPub (O.pubOf a) = true) (hvb : O.validPub (O.pubOf b) = true)
    (hsym : O.ecdh a (O.pubOf b) = O.ecdh b (O.pubOf a))
    (own0 own1 own2 dev0 dev1 : EcdhSession) (xA xB : Bytes)
    (h0 : ecdhNew rs none cipher = .ok own0) (h1 : ecdhParameter prf O own0 a ra = .ok (own1, xA))
    (hd0 : ecdhNew rs (some xA) cipher = .ok dev0) (hd1 : ecdhParameter prf O dev0 b rb = .ok (dev1, xB))
    (h2 : ecdhSetParameter prf O own1 xB = .ok own2) : own2.cr = dev1.cr := by
  obtain ⟨_, rfl⟩ := newSession_ok h0
  obtain ⟨_, rfl⟩ := newSession_ok hd0
  obtain ⟨_, hwA, rfl⟩ := ecdhParameter_first rfl h1
  obtain ⟨c, kd, hwB, hc, hkd, rfl⟩ := ecdhParameter_second rfl hd1
  obtain ⟨k, c', ko, hk, hc', hko, rfl⟩ := ecdhSetParameter_ok h2
  cases hk; cases hc.symm.trans hc'
  have hb := ecdh_both_sides_same_shse O a b ra rb n hn hpa hpb hra hrb hva hvb hsym xA xB hwA hwB
  unfold ecdhSymmetricKey at hkd hko
  rw [Option.getD, hb.1] at hko
  rw [hb.2] at hkd
  cases hkd.symm.trans hko
  rfl

/-- ASYMKEX, given RSA-OAEP decrypts what it encrypted: keys are KDF(K_IN = device random,
ContextRand = owner random) on both sides. -/
theorem oaep_both_sides_same_keys (prf : Bytes → Bytes → Bytes) (enc dec : Bytes → Option Bytes)
    (ps : Nat) (cipher : Int) (ra rb : Bytes) (own0 own1 own2 dev0 dev1 : OaepSession) (xA ct : Bytes)
    (h0 : oaepNew ps none cipher = .ok own0) (h1 : oaepParameter prf enc own0 ra = .ok (own1, xA))
    (hd0 : oaepNew ps (some xA) cipher = .ok dev0) (hd1 : oaepParameter prf enc dev0 rb = .ok (dev1, ct))
    (hdec : ∀ x c, enc x = some c → dec c = some x)
    (h2 : oaepSetParameter prf own1 (dec ct) = .ok own2) : own2.cr = dev1.cr ∧ xA = ra := by
  obtain ⟨_, rfl⟩ := newSession_ok h0
  obtain ⟨_, rfl⟩ := newSession_ok hd0
  obtain ⟨rfl, rfl⟩ := oaepParameter_first rfl h1
  obtain ⟨c, kd, hc, hkd, he, rfl⟩ := oaepParameter_second rfl hd1
  obtain ⟨x, c', ko, hx, hc', hko, rfl⟩ := oaepSetParameter_ok h2
  cases (hdec rb ct he).symm.trans hx; cases hc.symm.trans hc'
  cases hkd.symm.trans hko
  exact ⟨rfl, rfl⟩

/-- A wrong-size (or otherwise undecryptable) OAEP ciphertext never yields a key. -/
theorem oaep_rejects_undecryptable (prf : Bytes → Bytes → Bytes) (s : OaepSession) :
    oaepSetParameter prf s none = .reject := rfl

/-! ## persistence -/

/-- restore ∘ persist = id for a DH session at any stage, provided no stored big integer is zero
(`DhPersistable`; the zero case is `dh_restore_invariant` and `dh_restore_zero_secret_unfixed`). -/
theorem persist_roundtrip_dh (s : DhSession) (h : DhPersistable s) : dhRestore (dhPersist s) = .ok s := by
  rw [dhRestore_persist_general s h.1 h.2.1 h.2.2.1, dhNormalize_of_persistable s h]

/-- The server-side DH session after each of the three steps is persistable whenever its secret
is non-zero: after `Parameter` it holds only `a`; after `SetParameter` it holds only the keys. -/
theorem dh_stages_persistable (prf : Bytes → Bytes → Bytes) (G : DhGroup) (cipher : Int) (ra xB : Bytes)
    (own0 own1 own2 : DhSession) (xA : Bytes)
    (hg : G.g < 9223372036854775808) (hps : G.paramSize < 9223372036854775808)
    (hc : -9223372036854775808 ≤ cipher ∧ cipher < 9223372036854775808)
    (h0 : dhNew G none cipher = .ok own0) (h1 : dhParameter prf own0 ra = .ok (own1, xA))
    (h2 : dhSetParameter prf own1 xB = .ok own2) (hnz : beNat ra ≠ 0) :
    DhPersistable own0 ∧ DhPersistable own1 ∧ DhPersistable own2 := by
  obtain ⟨⟨c, hrow⟩, rfl⟩ := newSession_ok h0
  obtain ⟨rfl, -⟩ := dhParameter_first rfl h1
  obtain ⟨_, _, _, _, _, _, rfl⟩ := dhSetParameter_ok h2
  refine ⟨?_, ?_, ?_⟩ <;> simp [DhPersistable, CrypterOk, hrow, hg, hps, hc.1, hc.2, hnz]

/-- Restore-invariance of the outcome for EVERY server secret, zero included (repaired code):
completing the exchange on the restored stage-1 session gives exactly the result of completing
it on the live one. -/
theorem dh_restore_invariant (prf : Bytes → Bytes → Bytes) (G : DhGroup) (cipher : Int) (ra xB : Bytes)
    (own0 own1 : DhSession) (xA : Bytes)
    (hg : G.g < 9223372036854775808) (hps : G.paramSize < 9223372036854775808)
    (hc : -9223372036854775808 ≤ cipher ∧ cipher < 9223372036854775808)
    (h0 : dhNew G none cipher = .ok own0) (h1 : dhParameter prf own0 ra = .ok (own1, xA)) :
    (dhRestore (dhPersist own1)).bind (fun s => dhSetParameter prf s xB) = dhSetParameter prf own1 xB := by
  obtain ⟨⟨c, hrow⟩, rfl⟩ := newSession_ok h0
  obtain ⟨rfl, -⟩ := dhParameter_first rfl h1
  rw [dhRestore_persist_general _ (by simp [CrypterOk, hrow, hc.1, hc.2]) (by simpa using hg) (by simpa using hps)]
  by_cases hz : beNat ra = 0
  · -- the zero secret comes back as nil and is refused; live, the check on the shared value refuses it
    simp [Outcome.bind, dhNormalize, hz, dhSetParameter, hrow, dhSymmetricKey, dhShared_zero]
  · simp [Outcome.bind, dhNormalize, hz]

/-- What the unrepaired code did at the same point: a server whose random secret is 0 persists `a`
as the empty string, restores it as nil, and `SetParameter` then dereferences nil — while the
live session answers "invalid shared secret".  (Replayed on Go by the harness: case
`restore-zero-secret`.) -/
theorem dh_restore_zero_secret_unfixed (prf : Bytes → Bytes → Bytes) (G : DhGroup) (cipher : Int) (xB : Bytes)
    (own0 own1 : DhSession) (xA : Bytes)
    (hg : G.g < 9223372036854775808) (hps : G.paramSize < 9223372036854775808)
    (hc : -9223372036854775808 ≤ cipher ∧ cipher < 9223372036854775808)
    (h0 : dhNew G none cipher = .ok own0) (h1 : dhParameter prf own0 (zeros G.paramSize) = .ok (own1, xA)) :
    (dhRestore (dhPersist own1)).bind (fun s => dhSetParameterUnfixed prf s xB) = .panic "dh:nil private parameter" ∧
    dhSetParameterUnfixed prf own1 xB = .reject := by
  have hz : beNat (zeros G.paramSize) = 0 := by simpa [beNat, zeros] using beNat_replicate_zero_append G.paramSize []
  obtain ⟨⟨c, hrow⟩, rfl⟩ := newSession_ok h0
  obtain ⟨rfl, -⟩ := dhParameter_first rfl h1
  constructor
  · rw [dhRestore_persist_general _ (by simp [CrypterOk, hrow, hc.1, hc.2]) (by simpa using hg) (by simpa using hps)]
    simp [Outcome.bind, dhNormalize, hz, dhSetParameterUnfixed]
  · simp [dhSetParameterUnfixed, dhSetParameter, hrow, dhSymmetricKey, hz, dhShared_zero, Outcome.bind]

/-- restore ∘ persist = id for an ECDH session at any stage after the first `Parameter`
(`xA` present; the stored key, if any, is one the curve accepts). -/
theorem persist_roundtrip_ecdh (validPriv : Nat → Bytes → Bool) (s : EcdhSession)
    (h : EcdhPersistable validPriv s) : ecdhRestore validPriv (ecdhPersist s) = .ok s := by
  obtain ⟨⟨⟨row, hrow⟩, hc1, hc2⟩, hrs, hxa, hk⟩ := h
  obtain ⟨rs, xA, xB, priv, cr⟩ := s
  cases xA with
  | none => simp at hxa
  | some xA =>
    have hrs' : rs < 9223372036854775808 := by rcases hrs with h | h <;> simp at h <;> omega
    have hrs2 : ¬ (rs ≠ 16 ∧ rs ≠ 48) := by simp at hrs; omega
    cases priv <;> simp only at hk hrow <;>
      simp [ecdhRestore, ecdhPersist, Items.ofList, Items.toList, itemBytes, itemNat, optBytes, hrs', hrs2,
        itemInt_intItem _ hc1 hc2, hrow, hk]

/-- restore ∘ persist = id for an ASYMKEX session at any stage after the first `Parameter`. -/
theorem persist_roundtrip_oaep (s : OaepSession) (h : OaepPersistable s) : oaepRestore (oaepPersist s) = .ok s := by
  obtain ⟨⟨⟨row, hrow⟩, hc1, hc2⟩, hps, hxa⟩ := h
  obtain ⟨ps, xA, xB, cr⟩ := s
  cases xA with
  | none => simp at hxa
  | some xA =>
    simp [oaepRestore, oaepPersist, Items.ofList, Items.toList, itemBytes, itemNat, optBytes, hps,
      itemInt_intItem _ hc1 hc2, hrow]

/-- The server-side ECDH and ASYMKEX sessions after `Parameter` and after `SetParameter` satisfy the
hypotheses of the two roundtrip theorems. -/
theorem ecdh_oaep_stages_persistable (prf : Bytes → Bytes → Bytes) (O : EcdhOracle) (validPriv : Nat → Bytes → Bool)
    (rs ps : Nat) (cipher : Int) (k ra xB : Bytes) (dec : Option Bytes)
    (e0 e1 e2 : EcdhSession) (o0 o1 o2 : OaepSession) (xA xA' : Bytes) (enc : Bytes → Option Bytes)
    (hvp : validPriv rs k = true) (hve : validPriv rs [] = false) (hps : ps < 9223372036854775808)
    (hc : -9223372036854775808 ≤ cipher ∧ cipher < 9223372036854775808)
    (he0 : ecdhNew rs none cipher = .ok e0) (he1 : ecdhParameter prf O e0 k ra = .ok (e1, xA))
    (he2 : ecdhSetParameter prf O e1 xB = .ok e2)
    (ho0 : oaepNew ps none cipher = .ok o0) (ho1 : oaepParameter prf enc o0 ra = .ok (o1, xA'))
    (ho2 : oaepSetParameter prf o1 dec = .ok o2) :
    EcdhPersistable validPriv e1 ∧ EcdhPersistable validPriv e2 ∧ OaepPersistable o1 ∧ OaepPersistable o2 := by
  obtain ⟨⟨c, hrow⟩, rfl⟩ := newSession_ok he0
  obtain ⟨_, rfl⟩ := newSession_ok ho0
  obtain ⟨hrs, _, rfl⟩ := ecdhParameter_first rfl he1
  obtain ⟨_, _, _, _, _, _, rfl⟩ := ecdhSetParameter_ok he2
  obtain ⟨rfl, -⟩ := oaepParameter_first rfl ho1
  obtain ⟨_, _, _, _, _, _, rfl⟩ := oaepSetParameter_ok ho2
  refine ⟨?_, ?_, ?_, ?_⟩ <;>
    simp [EcdhPersistable, OaepPersistable, CrypterOk, hrow, hc.1, hc.2, hrs, hvp, hve, hps]

/-! ## freshness: distinct sessions feed the PRF distinct (key, message) pairs -/

/-- Injectivity of the KDF input construction.  The PRF is called on (K_IN = shSe, message i);
two calls coincide only if shSe, ContextRand, the counter and L all coincide.  Hence sessions that
differ in (shSe, ContextRand) query the PRF at disjoint points.  That PRF outputs at distinct
points are unrelated is the PRF assumption on HMAC — assumed, not proved. -/
theorem independent_sessions (shSe shSe' ctx ctx' : Bytes) (i j L L' : Nat)
    (hi : i < 256) (hj : j < 256) (hL : L < 65536) (hL' : L' < 65536)
    (h : (shSe, kdfMsg i ctx L) = (shSe', kdfMsg j ctx' L')) :
    shSe = shSe' ∧ ctx = ctx' ∧ i = j ∧ L = L' := by
  injection h with h1 h2
  have ⟨a, b, c⟩ := kdfMsg_inj i j hi hj ctx ctx' L L' hL hL' h2
  exact ⟨h1, b, a, c⟩

/-- …and the same over the whole message lists of two sessions. -/
theorem independent_sessions_inputs (h L : Nat) (hn : kdfSpecRounds h L ≤ 255) (hL : L < 65536)
    (shSe shSe' ctx ctx' : Bytes) (hne : (shSe, ctx) ≠ (shSe', ctx')) :
    ∀ m ∈ kdfInputs h L ctx, ∀ m' ∈ kdfInputs h L ctx', (shSe, m) ≠ (shSe', m') := by
  intro m hm m' hm' heq
  simp only [kdfInputs, List.mem_map, List.mem_range] at hm hm'
  obtain ⟨i, hi, rfl⟩ := hm
  obtain ⟨j, hj, rfl⟩ := hm'
  have := independent_sessions shSe shSe' ctx ctx' (i + 1) (j + 1) L L (by omega) (by omega) hL hL heq
  exact hne (by rw [this.1, this.2.1])

/-- How the three suites build (shSe, ContextRand) is injective in the session's fresh values:
DH — the fixed-width encoding of the shared value; ECDH — x ‖ randB ‖ randA for the fixed widths
the library itself generates (a peer may send a random of another length: the assembly is then
still a function of the parsed fields, but no longer injective — second conjunct's hypotheses);
ASYMKEX — (device random, owner random) directly. -/
theorem shse_assembly_injective :
    (∀ w s s', s < 256 ^ w → s' < 256 ^ w → natBE w s = natBE w s' → s = s') ∧
    (∀ x x' rb rb' ra ra' : Bytes, x.length = x'.length → rb.length = rb'.length →
        ecdhShSe x rb ra = ecdhShSe x' rb' ra' → x = x' ∧ rb = rb' ∧ ra = ra') ∧
    (ecdhShSe [1] [2] [3, 4] = ecdhShSe [1] [2, 3] [4]) := by
  refine ⟨?_, ?_, rfl⟩
  · exact fun w s s' hs hs' h => natBE_inj hs hs' h
  · intro x x' rb rb' ra ra' hx hrb h
    have ⟨h1, h2⟩ := List.append_inj h hx
    have ⟨h3, h4⟩ := List.append_inj h2 hrb
    exact ⟨h1, h3, h4⟩

/-! ## non-vacuity -/

/-- A toy but complete DH exchange (p = 23, g = 5, secrets 6 and 15 → shared 2) through the model's
own functions: both directions give the same one-byte secret. -/
example : dhShared 23 (dhPublic ⟨23, 5, 1⟩ 6) 15 = .ok [2] ∧ dhShared 23 (dhPublic ⟨23, 5, 1⟩ 15) 6 = .ok [2] := by
  have hb : minBytes 23 = [23] := by rw [minBytes]; simp [minBytes_zero]
  simp [dhShared, dhPublic, dhSharedNat, powMod_eq, dhPeerValid, dhSecretValid, fillBytes, byteLen, hb, natBE]

/-- `kdfCode_eq_spec`/`key_lengths_match_cipher` hypotheses are satisfiable: a PRF with 32-byte output,
and a registered suite (COSEAES128CTR: 16 + 16 bytes). -/
example : ∃ prf : Bytes → Bytes → Bytes, (∀ k m, (prf k m).length = 32) ∧
    ∃ c ∈ Fdo.Gen.Kex.cipherSuites, c.prfBytes = 32 ∧ c.encKeyBytes = 16 ∧ c.macKeyBytes = 16 :=
  ⟨fun _ _ => List.replicate 32 0, fun _ _ => List.length_replicate, ⟨-17760704, "COSEAES128CTR", -65534, 5, 32, 16, 16, false⟩, by decide, rfl, rfl, rfl⟩

/-- A persistable DH session with a leading-zero-free non-zero secret exists (stage 1 of a server). -/
example : DhPersistable ⟨23, 5, 1, some 6, none, none, none, ⟨1, [], []⟩⟩ := by
  refine ⟨⟨Option.isSome_iff_exists.mp (by decide +kernel), by decide, by decide⟩, by decide, by decide, nofun, nofun, nofun, nofun⟩

/-- The ECDH parameter of a (fake) point with 2-byte coordinates round-trips, leading zero coordinate
byte included. -/
example : ecdhParamDecode (ecdhParamEncFields [0, 7] [9, 1] [5, 5, 5]) = some ([4, 0, 7, 9, 1], [5, 5, 5]) := by
  decide +kernel

end Fdo.Props.C14
