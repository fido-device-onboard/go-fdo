import Fdo.Cose.Sign1
/-
`sign1Verify` characterised once: it rejects, or it reaches the primitive that goes with the key kind,
and then with exactly this object's Sig_structure under a registered algorithm.  Props/C13.lean reads
its acceptance-shape theorems off this.  (`hdrGet_one`, `hdrGet_skip`: the header look-up on a literal map, for C13's
honest-run theorem and for `enc0_headers` in Kex/CrypterProofs.lean.)
-/
namespace Fdo.Cose
open Fdo Fdo.Cbor

theorem hdrGet_one (a : AnyVal) (rest : List (Val × AnyVal)) (l : Int) :
    hdrGet ((.int l, a) :: rest) l = some a := by
  simp [hdrGet, List.find?, Val.keyEq]

theorem hdrGet_skip (k l : Int) (a : AnyVal) (rest : List (Val × AnyVal)) (h : k ≠ l) :
    hdrGet ((.int k, a) :: rest) l = hdrGet rest l := by
  have : (k == l) = false := by simp [h]
  simp [hdrGet, List.find?, Val.keyEq, this]

theorem sign1Verify_cases (sigAlgs : List (Int × Nat)) (prot : List (Val × AnyVal))
    (pl : Option Bytes) (sig aad : Bytes) (k : KeyKind) :
    sign1Verify sigAlgs prot pl sig aad k = .reject ∨
    ∃ p alg bits, pl = some p ∧ hdrGet prot 1 = some (.int alg) ∧ (alg, bits) ∈ sigAlgs ∧
      ((∃ n, k = .ec n ∧ sig.length = 2 * n ∧
          sign1Verify sigAlgs prot pl sig aad k =
            .ecdsa bits (toBeSigned ctxSignature1 (encProtected prot) aad p) (rsDecode n sig).1 (rsDecode n sig).2) ∨
       (∃ pad, k = .rsa ∧ rsaPadOf alg = some pad ∧
          sign1Verify sigAlgs prot pl sig aad k =
            .rsa pad bits (toBeSigned ctxSignature1 (encProtected prot) aad p) sig)) := by
  have registered {alg q : Int} {bits : Nat} (hf : sigAlgs.find? (fun p => p.1 = alg) = some (q, bits)) :
      (alg, bits) ∈ sigAlgs := by
    have hq : q = alg := by simpa using List.find?_some hf
    exact hq ▸ List.mem_of_find?_eq_some hf
  -- every end but two rejects.  On the way to those two: the payload `p`; the signature not shorter than 2, of even
  -- length; `halg`; `alg` within int64; `hf`; the `let tbs`; then the key kind's own check (`h4`: the negated width test)
  fun_cases sign1Verify sigAlgs prot pl sig aad k <;> try exact .inl rfl
  next p _ _ alg halg _ q bits hf tbs n h4 =>
    exact .inr ⟨p, alg, bits, rfl, halg, registered hf, .inl ⟨n, rfl, Decidable.of_not_not h4, rfl⟩⟩
  next p _ _ alg halg _ q bits hf tbs pad hp =>
    exact .inr ⟨p, alg, bits, rfl, halg, registered hf, .inr ⟨pad, rfl, hp, rfl⟩⟩

end Fdo.Cose
