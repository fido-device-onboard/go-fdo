import Fdo.Store
/-
Lemmas behind Fdo/Props/C18.lean and the store part of Fdo/Props/C03.lean.

Three ideas carry everything:
  * `exec_invariant` / `trace_filter_sim`: what is preserved along a history, and what does not see dropped operations,
    each by one induction (the `_append`/`_length`/`_map` lemmas above them are the structural ones);
  * `step_tokens`: what one step leaves in one session, as a single equation — the per-session
    theorems (read your write, dead sessions) read their answer off it;
  * `Agree T`: two stores that agree on the sessions in `T` and on everything persistent.  A session
    operation that addresses no session of `T` keeps `Agree T` (`frame`); every other operation
    gives the same result on both and keeps them in agreement (`congr`).  `T = {t}` is isolation of
    session `t`, `T = ∅` independence of the persistent part from all sessions.
-/
namespace Fdo.Store

variable {Raw : Type}

/-! ### histories -/

theorem exec_append (V : Variant) (mac : Raw → Auth) (s : Store) (h₁ h₂ : List (Op Raw)) :
    exec V mac s (h₁ ++ h₂) = exec V mac (exec V mac s h₁) h₂ := by
  induction h₁ generalizing s with
  | nil => rfl
  | cons op ops ih => simp [exec, ih]

theorem trace_append (V : Variant) (mac : Raw → Auth) (s : Store) (h₁ h₂ : List (Op Raw)) :
    trace V mac s (h₁ ++ h₂) = trace V mac s h₁ ++ trace V mac (exec V mac s h₁) h₂ := by
  induction h₁ generalizing s with
  | nil => rfl
  | cons op ops ih => simp [exec, trace, ih]

theorem trace_map_snd (V : Variant) (mac : Raw → Auth) (s : Store) (h : List (Op Raw)) :
    (trace V mac s h).map (·.2) = results V mac s h := by
  induction h generalizing s with
  | nil => rfl
  | cons op ops ih => simp [trace, results, ih]

theorem trace_map_fst (V : Variant) (mac : Raw → Auth) (s : Store) (h : List (Op Raw)) :
    (trace V mac s h).map (·.1) = h := by
  induction h generalizing s with
  | nil => rfl
  | cons op ops ih => simp [trace, ih]

theorem results_append (V : Variant) (mac : Raw → Auth) (s : Store) (h₁ h₂ : List (Op Raw)) :
    results V mac s (h₁ ++ h₂) = results V mac s h₁ ++ results V mac (exec V mac s h₁) h₂ := by
  simp only [← trace_map_snd, trace_append, List.map_append]

theorem results_length (V : Variant) (mac : Raw → Auth) (s : Store) (h : List (Op Raw)) :
    (results V mac s h).length = h.length := by
  rw [← trace_map_snd, List.length_map, ← List.length_map (·.1), trace_map_fst]

theorem exec_snoc (V : Variant) (mac : Raw → Auth) (s : Store) (h : List (Op Raw)) (op : Op Raw) :
    exec V mac s (h ++ [op]) = (step V mac (exec V mac s h) op).1 := by
  simp [exec_append, exec]

variable (V : Variant) (mac : Raw → Auth)

theorem exec_invariant {P : Store → Prop} {ok : Op Raw → Prop}
    (hstep : ∀ s op, ok op → P s → P (step V mac s op).1) :
    ∀ (h : List (Op Raw)) (s : Store), (∀ op ∈ h, ok op) → P s → P (exec V mac s h)
  | [], _, _, hp => hp
  | op :: ops, s, hok, hp =>
    exec_invariant hstep ops _ (fun o ho => hok o (List.mem_cons_of_mem _ ho))
      (hstep s op (hok op List.mem_cons_self) hp)

/-- Dropping operations that the rest cannot observe.  `R` relates the store of the full history
with the store of the history from which the operations selected by `drop` were removed. -/
theorem trace_filter_sim (R : Store → Store → Prop)
    (drop : Op Raw → Bool)
    (hdrop : ∀ s s' op, R s s' → drop op = true → R (step V mac s op).1 s')
    (hkeep : ∀ s s' op, R s s' → drop op = false →
      (step V mac s op).2 = (step V mac s' op).2 ∧ R (step V mac s op).1 (step V mac s' op).1) :
    ∀ (h : List (Op Raw)) (s s' : Store), R s s' →
      (trace V mac s h).filter (fun p => !drop p.1) = trace V mac s' (h.filter (fun op => !drop op))
      ∧ R (exec V mac s h) (exec V mac s' (h.filter (fun op => !drop op))) := by
  intro h
  induction h with
  | nil => intro s s' hr; exact ⟨rfl, hr⟩
  | cons op ops ih =>
    intro s s' hr
    cases hd : drop op with
    | true =>
      have := ih _ _ (hdrop s s' op hr hd)
      simpa [trace, exec, hd] using this
    | false =>
      have hk := hkeep s s' op hr hd
      have := ih _ _ hk.2
      simp [trace, exec, hd, hk.1, this.1, this.2]

/-! ### operations that are not session operations -/

/-- What `ReplaceVoucher` leaves behind: `v` under `g'` and nothing under `g` when it succeeded on two
different GUIDs, else the store as it was (as found, `g = g'` is acknowledged and nothing stored). -/
theorem replaceVoucher_fst (s : Store) (g g' : Guid) (ext : Bool) (v : Bytes) :
    (replaceVoucher V s g g' ext v).1 =
      if (replaceVoucher V s g g' ext v).2 = .ok ∧ g ≠ g' then
        { s with vouchers := upd (upd s.vouchers g' (some v)) g none }
      else s := by
  -- two ends answer `.ok`: `g = g'` as found (4), which stores nothing, and the replacement (6)
  fun_cases replaceVoucher V s g g' ext v
  case case4 _ _ _ h4 => exact (if_neg fun h => h.2 h4).symm
  case case6 _ _ _ h4 _ _ => exact (if_pos ⟨rfl, h4⟩).symm
  all_goals exact (if_neg fun h => nomatch h.1).symm

theorem replaceVoucher_with_tokens (s : Store) (tk : Token → Option (Protocol × Fields))
    (g g' : Guid) (ext : Bool) (v : Bytes) :
    replaceVoucher V { s with tokens := tk } g g' ext v =
      ({ (replaceVoucher V s g g' ext v).1 with tokens := tk }, (replaceVoucher V s g g' ext v).2) := by
  -- the conditions read `vouchers` only: on each leaf of the right-hand call the left-hand one goes the same way
  fun_cases replaceVoucher V s g g' ext v
  case case1 h1 => rw [replaceVoucher, if_pos h1]
  case case2 h1 h2 => rw [replaceVoucher, if_neg h1, if_pos h2]
  case case3 h1 h2 h3 => rw [replaceVoucher, if_neg h1, if_neg h2, if_pos h3]
  case case4 h1 h2 h3 h4 => rw [replaceVoucher, if_neg h1, if_neg h2, if_neg h3, if_pos h4]
  case case5 h1 h2 h3 h4 hg => rw [replaceVoucher, if_neg h1, if_neg h2, if_neg h3, if_neg h4]; simp only [hg]
  case case6 h1 h2 h3 h4 x hg => rw [replaceVoucher, if_neg h1, if_neg h2, if_neg h3, if_neg h4]; simp only [hg]

theorem store_eta (s : Store) (tk : Token → Option (Protocol × Fields)) (h : tk = s.tokens) :
    { s with tokens := tk } = s := by
  subst h; rfl

/-- A persistent operation (or `reopen`) neither reads nor writes `tokens`: it commutes with any
change to the sessions. -/
theorem persistent_with_tokens (s : Store)
    (tk : Token → Option (Protocol × Fields)) (op : Op Raw) (hs : op.isSession = false) :
    step V mac { s with tokens := tk } op =
      ({ (step V mac s op).1 with tokens := tk }, (step V mac s op).2) := by
  cases op with
  | newToken | invalidate | set | get | selfInfo => cases hs
  | replaceVoucher g g' ext v => exact replaceVoucher_with_tokens V s tk g g' ext v
  | addVoucher g v => simp only [step]; split <;> rfl
  | removeVoucher g => simp only [step]; split <;> rfl
  | getRVBlob g now => simp only [step]; split <;> rfl
  | addOwnerKey typ bits v => simp only [step]; split <;> rfl
  | addMfgKey typ bits chain v => simp only [step]; (repeat' split) <;> rfl
  | getVoucher | setRVBlob | ownerKey | mfgKey | reopen => rfl

/-! ### what one step does to one session -/

theorem setField_other (s : Store) (t t' : Token) (f : Field) (v : Bytes) (h : t' ≠ t) :
    (setField V s t f v).1.tokens t' = s.tokens t' := by
  fun_cases setField V s t f v
  case case4 => exact upd_other h
  all_goals rfl

theorem setField_self (s : Store) (t : Token) (f : Field) (v : Bytes) :
    (setField .repaired s t f v).1.tokens t = (s.tokens t).map fun pf => (pf.1, upd pf.2 f (some v)) := by
  unfold setField
  cases h : s.tokens t <;> simp [h]

theorem step_tokens (s : Store) (op : Op Raw) (t : Token) :
    (step V mac s op).1.tokens t =
      match op with
      | .newToken t' p => if t' = t then some (p, fun _ => none) else s.tokens t
      | .invalidate r => if mac r = .valid t then none else s.tokens t
      | .set r f v => if mac r = .valid t then (setField V s t f v).1.tokens t else s.tokens t
      | _ => s.tokens t := by
  -- the leaves come in the order of `step`'s arms: newToken, invalidate, set, get, selfInfo (1–5); `addVoucher` has two
  -- (6, 7), `getVoucher` is 8, so `replaceVoucher` is the ninth; every other one hands `s.tokens` on as it stands
  fun_cases step V mac s op
  case case1 t' p => simp [upd, eq_comm]
  case case2 r => cases ha : mac r <;> simp [withSession, ha, upd, eq_comm]
  case case3 r f v =>
    cases ha : mac r with
    | valid t' =>
      by_cases ht : t' = t
      · simp [withSession, ha, ht]
      · simp [withSession, ha, ht, setField_other V s t' t f v (Ne.symm ht)]
    | invalid => simp [withSession, ha]
    | short => simp [withSession, ha]
  case case4 r f => cases mac r <;> rfl
  case case5 r => cases mac r <;> rfl
  case case9 g g' ext v => fun_cases replaceVoucher V s g g' ext v <;> rfl
  all_goals rfl

/-! ### one session, one field (the repaired store) -/

/-- What session `t` holds in field `f`: `none` when the session does not exist. -/
def Store.field (s : Store) (t : Token) (f : Field) : Option (Option Bytes) :=
  (s.tokens t).map (·.2 f)

def Store.live (s : Store) (t : Token) : Prop := (s.tokens t).isSome

theorem step_get {s : Store} {r : Raw} {t : Token} {f : Field}
    (hr : mac r = .valid t) :
    (step V mac s (.get r f)).2 = match s.field t f with
      | none => .notFound
      | some x => found x := by
  simp only [step, withSession, hr, getField, Store.field]
  cases s.tokens t <;> rfl

theorem step_set_ok_iff (s : Store) (r : Raw) (t : Token) (f : Field) (v : Bytes)
    (hr : mac r = .valid t) :
    (step .repaired mac s (.set r f v)).2 = .ok ↔ (s.tokens t).isSome = true := by
  simp only [step, withSession, hr, setField]
  cases s.tokens t <;> simp

theorem step_set_field (s : Store) (r : Raw) (t : Token) (f : Field) (v : Bytes)
    (hr : mac r = .valid t) :
    (step .repaired mac s (.set r f v)).1.field t f = (s.tokens t).map fun _ => some v := by
  unfold Store.field
  rw [step_tokens]
  dsimp only
  rw [if_pos hr, setField_self]
  cases s.tokens t <;> simp

theorem quiet_field (t : Token) (f : Field) (s : Store) (op : Op Raw)
    (hq : op.quiet mac t f) : (step .repaired mac s op).1.field t f = s.field t f := by
  unfold Store.field
  rw [step_tokens]
  cases op with
  | newToken t' p => exact congrArg _ (if_neg hq)
  | invalidate r => exact congrArg _ (if_neg hq)
  | set r f' v =>
    dsimp only
    split
    · rename_i hm
      have hf : f ≠ f' := fun e => hq ⟨hm, e.symm⟩
      rw [setField_self]
      cases s.tokens t <;> simp [upd, hf]
    · rfl
  | _ => rfl

theorem keeps_live (t : Token) (s : Store) (op : Op Raw) (hk : op.keeps mac t) :
    ((step .repaired mac s op).1.tokens t).isSome = (s.tokens t).isSome := by
  rw [step_tokens]
  cases op with
  | newToken t' p => exact congrArg _ (if_neg hk)
  | invalidate r => exact congrArg _ (if_neg hk)
  | set r f v =>
    dsimp only
    split
    · rw [setField_self, Option.isSome_map]
    · rfl
  | _ => rfl

/-- Without a `NewToken` that draws `t`, a dead session stays dead. -/
theorem noIssue_dead (t : Token) (s : Store) (op : Op Raw)
    (hn : op.noIssue t) (hd : s.tokens t = none) : (step .repaired mac s op).1.tokens t = none := by
  rw [step_tokens]
  cases op with
  | newToken t' p => exact (if_neg hn).trans hd
  | invalidate r => dsimp only; rw [hd, ite_self]
  | set r f v => dsimp only; rw [setField_self, hd]; exact ite_self _
  | _ => exact hd

theorem quiet_exec_field (t : Token) (f : Field) (s : Store) (h : List (Op Raw))
    (hq : ∀ op ∈ h, op.quiet mac t f) : (exec .repaired mac s h).field t f = s.field t f :=
  exec_invariant .repaired mac (P := fun s' => s'.field t f = s.field t f)
    (fun s' op ho hp => (quiet_field mac t f s' op ho).trans hp) h s hq rfl

theorem keeps_exec_live (t : Token) (s : Store) (h : List (Op Raw))
    (hk : ∀ op ∈ h, op.keeps mac t) :
    ((exec .repaired mac s h).tokens t).isSome = (s.tokens t).isSome :=
  exec_invariant .repaired mac (P := fun s' => (s'.tokens t).isSome = (s.tokens t).isSome)
    (fun s' op ho hp => (keeps_live mac t s' op ho).trans hp) h s hk rfl

theorem noIssue_exec_dead (t : Token) (s : Store) (h : List (Op Raw))
    (hn : ∀ op ∈ h, op.noIssue t) (hd : s.tokens t = none) :
    (exec .repaired mac s h).tokens t = none :=
  exec_invariant .repaired mac (noIssue_dead mac t) h s hn hd

/-! ### sessions and the persistent part do not see each other -/

/-- Two stores agree on the sessions in `T` and on everything persistent. -/
structure Agree (T : Token → Prop) (s s' : Store) : Prop where
  tok : ∀ t, T t → s.tokens t = s'.tokens t
  vou : s.vouchers = s'.vouchers
  rvb : s.rvBlobs = s'.rvBlobs
  own : s.ownerKeys = s'.ownerKeys
  mfg : s.mfgKeys = s'.mfgKeys

/-- The same persistent part, whatever the sessions are. -/
abbrev SamePersistent (s s' : Store) : Prop := Agree (fun _ => False) s s'

theorem Agree.refl (T : Token → Prop) (s : Store) : Agree T s s := ⟨fun _ _ => rfl, rfl, rfl, rfl, rfl⟩

theorem Agree.trans {T : Token → Prop} {a b c : Store} (h₁ : Agree T a b) (h₂ : Agree T b c) :
    Agree T a c :=
  ⟨fun t ht => (h₁.tok t ht).trans (h₂.tok t ht), h₁.vou.trans h₂.vou, h₁.rvb.trans h₂.rvb,
    h₁.own.trans h₂.own, h₁.mfg.trans h₂.mfg⟩

theorem Agree.eq {T : Token → Prop} {s s' : Store} (h : Agree T s s') :
    s' = { s with tokens := s'.tokens } := by
  obtain ⟨_, h1, h2, h3, h4⟩ := h
  cases s'; subst h1 h2 h3 h4; rfl

/-- A session operation never touches the persistent part. -/
theorem session_persistent (s : Store) (op : Op Raw)
    (hs : op.isSession = true) : SamePersistent (step V mac s op).1 s := by
  cases op with
  | newToken t p => exact ⟨nofun, rfl, rfl, rfl, rfl⟩
  | invalidate r => simp only [step]; cases mac r <;> exact ⟨nofun, rfl, rfl, rfl, rfl⟩
  | set r f v =>
    simp only [step]
    cases mac r with
    | valid t => simp only [withSession]; fun_cases setField V s t f v <;> exact ⟨nofun, rfl, rfl, rfl, rfl⟩
    | invalid => exact ⟨nofun, rfl, rfl, rfl, rfl⟩
    | short => exact ⟨nofun, rfl, rfl, rfl, rfl⟩
  | get r f => simp only [step]; cases mac r <;> exact ⟨nofun, rfl, rfl, rfl, rfl⟩
  | selfInfo r => simp only [step]; cases mac r <;> exact ⟨nofun, rfl, rfl, rfl, rfl⟩
  | _ => cases hs

theorem Op.isSession_of_foreignTo {mac : Raw → Auth} {t : Token} {op : Op Raw}
    (h : op.foreignTo mac t = true) : op.isSession = true := by
  cases op <;> first | rfl | cases h

theorem Agree.frame (T : Token → Prop) (s : Store) (op : Op Raw)
    (hs : op.isSession = true) (hT : ∀ t, T t → op.foreignTo mac t = true) :
    Agree T (step V mac s op).1 s := by
  have e := session_persistent V mac s op hs
  refine ⟨fun t ht => ?_, e.vou, e.rvb, e.own, e.mfg⟩
  have hf := hT t ht
  rw [step_tokens]
  cases op with
  | newToken t' p => exact if_neg (by simpa [Op.foreignTo] using hf)
  | invalidate r => exact if_neg (by simpa [Op.foreignTo] using hf)
  | set r f v => exact if_neg (by simpa [Op.foreignTo] using hf)
  | _ => rfl

theorem setField_congr (s s' : Store) (t : Token) (f : Field) (v : Bytes)
    (h : s.tokens t = s'.tokens t) :
    (setField V s t f v).2 = (setField V s' t f v).2 ∧
    (setField V s t f v).1.tokens t = (setField V s' t f v).1.tokens t := by
  simp only [setField, ← h]
  (repeat' split) <;> simp [h]

theorem session_result (t : Token) (s s' : Store) (op : Op Raw)
    (hs : op.isSession = true) (hf : op.foreignTo mac t = false) (ht : s.tokens t = s'.tokens t) :
    (step V mac s op).2 = (step V mac s' op).2 := by
  cases op with
  | newToken t' p => rfl
  | invalidate r => simp only [step]; cases mac r <;> rfl
  | selfInfo r => simp only [step]; cases mac r <;> rfl
  | set r f v =>
    have hm : mac r = .valid t := by simpa [Op.foreignTo] using hf
    simpa only [step, withSession, hm] using (setField_congr V s s' t f v ht).1
  | get r f =>
    have hm : mac r = .valid t := by simpa [Op.foreignTo] using hf
    simp only [step, withSession, hm, getField, ht]
  | _ => cases hs

theorem Agree.congr (T : Token → Prop) (s s' : Store) (op : Op Raw)
    (hT : op.isSession = true → ∃ t, T t ∧ op.foreignTo mac t = false) (ha : Agree T s s') :
    (step V mac s op).2 = (step V mac s' op).2 ∧ Agree T (step V mac s op).1 (step V mac s' op).1 := by
  cases hs : op.isSession with
  | true =>
    obtain ⟨t₀, ht₀, hf⟩ := hT hs
    have e := session_persistent V mac s op hs
    have e' := session_persistent V mac s' op hs
    refine ⟨session_result V mac t₀ s s' op hs hf (ha.tok t₀ ht₀), fun t ht => ?_,
      e.vou.trans (ha.vou.trans e'.vou.symm), e.rvb.trans (ha.rvb.trans e'.rvb.symm),
      e.own.trans (ha.own.trans e'.own.symm), e.mfg.trans (ha.mfg.trans e'.mfg.symm)⟩
    rw [step_tokens, step_tokens]
    cases op with
    | newToken t' p => dsimp only; rw [ha.tok t ht]
    | invalidate r => dsimp only; rw [ha.tok t ht]
    | set r f v => dsimp only; rw [ha.tok t ht, (setField_congr V s s' t f v (ha.tok t ht)).2]
    | _ => exact ha.tok t ht
  | false =>
    rw [ha.eq, persistent_with_tokens V mac s s'.tokens op hs]
    refine ⟨rfl, fun t ht => ?_, rfl, rfl, rfl, rfl⟩
    show (step V mac s op).1.tokens t = s'.tokens t
    rw [step_tokens]
    cases op with
    | newToken | invalidate | set | get | selfInfo => cases hs
    | _ => exact ha.tok t ht

/-- `Agree.frame` for one session: an operation foreign to `t` leaves `t` and everything persistent as they were. -/
theorem foreign_frame (t : Token) (s : Store) (op : Op Raw) (hop : op.foreignTo mac t = true) :
    Agree (· = t) (step V mac s op).1 s :=
  Agree.frame V mac (· = t) s op (Op.isSession_of_foreignTo hop) (fun _ e => e ▸ hop)

/-- `Agree.congr` for one session: an operation that is not foreign to `t` sees only what the two stores agree on. -/
theorem own_congr (t : Token) (s s' : Store) (op : Op Raw) (hop : op.foreignTo mac t = false) (ha : Agree (· = t) s s') :
    (step V mac s op).2 = (step V mac s' op).2 ∧ Agree (· = t) (step V mac s op).1 (step V mac s' op).1 :=
  Agree.congr V mac (· = t) s s' op (fun _ => ⟨t, rfl, hop⟩) ha

theorem isolation_sim (t : Token) (h : List (Op Raw)) (s : Store) :
    (trace V mac s h).filter (fun p => !p.1.foreignTo mac t) =
      trace V mac s (h.filter (fun op => !op.foreignTo mac t)) ∧
    Agree (· = t) (exec V mac s h) (exec V mac s (h.filter (fun op => !op.foreignTo mac t))) :=
  trace_filter_sim V mac (Agree (· = t)) (Op.foreignTo mac t)
    (fun s _ op hr hd => (foreign_frame V mac t s op hd).trans hr)
    (fun s s' op hr hd => own_congr V mac t s s' op hd hr) h s s (Agree.refl _ s)

/-! ### rendezvous blobs -/

/-- `op` does not register a blob for `g`. -/
def Op.keepsBlob (g : Guid) : Op Raw → Prop
  | .setRVBlob g' _ _ _ => g' ≠ g
  | _ => True

theorem keepsBlob_frame (g : Guid) (s : Store) (op : Op Raw)
    (hk : op.keepsBlob g) : (step V mac s op).1.rvBlobs g = s.rvBlobs g := by
  cases hs : op.isSession with
  | true => exact congrFun (session_persistent V mac s op hs).rvb g
  | false =>
    cases op with
    | setRVBlob g' b v exp => exact upd_other (Ne.symm hk)
    | replaceVoucher g₁ g₂ ext v => simp only [step, replaceVoucher_fst V s g₁ g₂ ext v]; split <;> rfl
    | addVoucher | removeVoucher | getRVBlob | addOwnerKey => simp only [step]; split <;> rfl
    | addMfgKey typ bits chain v => simp only [step]; (repeat' split) <;> rfl
    | newToken | invalidate | set | get | selfInfo => cases hs
    | _ => rfl

theorem keepsBlob_exec (g : Guid) (s : Store) (h : List (Op Raw))
    (hk : ∀ op ∈ h, op.keepsBlob g) : (exec V mac s h).rvBlobs g = s.rvBlobs g :=
  exec_invariant V mac (P := fun s' => s'.rvBlobs g = s.rvBlobs g)
    (fun s' op ho hp => (keepsBlob_frame V mac g s' op ho).trans hp) h s hk rfl

/-! ### vouchers -/

/-- `ReplaceVoucher` succeeds exactly when the replacement has no extensions and a new GUID that
is not stored, and the replaced GUID is stored. -/
theorem replaceVoucher_ok_iff (s : Store) (g g' : Guid) (ext : Bool) (v : Bytes) :
    (replaceVoucher .repaired s g g' ext v).2 = .ok ↔
      ext = false ∧ g ≠ g' ∧ s.vouchers g' = none ∧ (s.vouchers g).isSome = true := by
  unfold replaceVoucher
  cases ext with
  | true => simp
  | false =>
    by_cases hg : g = g'
    · simp [hg]
    · cases h' : s.vouchers g' with
      | some x => simp [hg]
      | none => cases h : s.vouchers g <;> simp [hg]

theorem replaceVoucher_state (s : Store) (g g' : Guid) (ext : Bool) (v : Bytes) :
    (replaceVoucher .repaired s g g' ext v).1 =
      if (replaceVoucher .repaired s g g' ext v).2 = .ok then
        { s with vouchers := upd (upd s.vouchers g' (some v)) g none }
      else s := by
  rw [replaceVoucher_fst]
  by_cases h : (replaceVoucher .repaired s g g' ext v).2 = .ok
  · rw [if_pos h, if_pos ⟨h, ((replaceVoucher_ok_iff s g g' ext v).mp h).2.1⟩]
  · rw [if_neg h, if_neg (fun hc => h hc.1)]

/-- `op` neither replaces nor removes the voucher stored under `g` (and does not replace
another voucher by one with GUID `g`). -/
def Op.keepsVoucher (g : Guid) : Op Raw → Prop
  | .replaceVoucher g₁ g₂ _ _ => g₁ ≠ g ∧ g₂ ≠ g
  | .removeVoucher g' => g' ≠ g
  | _ => True

theorem keepsVoucher_frame (g : Guid) (v : Bytes) (s : Store)
    (op : Op Raw) (hk : op.keepsVoucher g) (hv : s.vouchers g = some v) :
    (step V mac s op).1.vouchers g = some v := by
  cases hs : op.isSession with
  | true => exact (congrFun (session_persistent V mac s op hs).vou g).trans hv
  | false =>
    cases op with
    | addVoucher g' v' =>
      simp only [step]
      split
      · exact hv
      · rename_i hg
        exact (upd_other (fun e => by rw [e, hg] at hv; cases hv)).trans hv
    | replaceVoucher g₁ g₂ ext v' =>
      simp only [step, replaceVoucher_fst V s g₁ g₂ ext v']
      split
      · exact (upd_other (Ne.symm hk.1)).trans ((upd_other (Ne.symm hk.2)).trans hv)
      · exact hv
    | removeVoucher g' =>
      simp only [step]
      split
      · exact hv
      · exact (upd_other (Ne.symm hk)).trans hv
    | getRVBlob | addOwnerKey => simp only [step]; split <;> exact hv
    | addMfgKey typ bits chain v' => simp only [step]; (repeat' split) <;> exact hv
    | newToken | invalidate | set | get | selfInfo => cases hs
    | _ => exact hv

theorem keepsVoucher_exec (g : Guid) (v : Bytes) (s : Store)
    (h : List (Op Raw)) (hk : ∀ op ∈ h, op.keepsVoucher g) (hv : s.vouchers g = some v) :
    (exec V mac s h).vouchers g = some v :=
  exec_invariant V mac (keepsVoucher_frame V mac g v) h s hk hv

theorem Op.raw_eq_some {op : Op Raw} {r : Raw} (h : op.raw = some r) :
    op = .invalidate r ∨ (∃ f v, op = .set r f v) ∨ (∃ f, op = .get r f) ∨ op = .selfInfo r := by
  cases op <;> simp [Op.raw] at h <;> simp [h]

end Fdo.Store
